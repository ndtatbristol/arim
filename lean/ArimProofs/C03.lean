import ArimModel.Assembly
import ArimModel.Weights
import ArimProofs.Lemmas.Reciprocity
import ArimProofs.Lemmas.Assembly
import ArimProofs.Tie.C03
import Mathlib.Analysis.SpecialFunctions.Trigonometric.Complex
import Mathlib.Tactic.Ring
import Mathlib.Tactic.LinearCombination
import Mathlib.Tactic.FieldSimp
/-! # C03 — the immersion forward model is reciprocal

Reciprocity of the model coefficients follows from one structural fact (★): along every immersion
path the transmit weight is the receive weight times a constant `R_a` that depends on the last mode
only, together with a reciprocal scatterer. (★) is proved from the model for pre-critical real rays:
per interface the direct and reverse coefficients and the ray-tube factor combine into a ratio of
leg invariants, which telescopes along the path (`Lemmas/Reciprocity.lean`). -/
namespace Arim.C03
open Arim.Assembly

section structural
variable {C : Type} [CommRing C]

/-- Reciprocity from the two structural facts. Let `A`, `B` be the transmit paths of a view and of
its reciprocal, with last modes `a`, `b`. If (i) `Q_A = R_a · Q'_A`, `Q_B = R_b · Q'_B` (this is (★))
and (ii) the scatterer is reciprocal in the sense `R_a · S_ab(x, y) = R_b · S_ba(y, x)` (for
`R_L = K/c_L²`, `R_T = −K/c_T²` this is `S_LL`, `S_TT` symmetric and
`c_T² S_LT(x,y) = −c_L² S_TL(y,x)`), then the coefficient of view `A–B` for transmitter `i`,
receiver `j` equals the coefficient of the reciprocal view for transmitter `j`, receiver `i`. -/
theorem reciprocity_of_ratio (QAi Q'Ai QBj Q'Bj Ra Rb Sab Sba : C)
    (hA : QAi = Ra * Q'Ai) (hB : QBj = Rb * Q'Bj) (hS : Ra * Sab = Rb * Sba) :
    Sab * QAi * Q'Bj = Sba * QBj * Q'Ai := by
  subst hA hB
  linear_combination (Q'Ai * Q'Bj) * hS

/-- the same statement on the model's amplitude formula (`modelAmp`), for one grid point -/
theorem reciprocity_modelAmp {K : Type} [Sub K] (Sab Sba : K → K → C) (thA thB : Nat → Nat → K)
    (QA Q'A QB Q'B : Nat → Nat → C) (Ra Rb : C) (a : K) (p i j : Nat)
    (hA : ∀ e, QA p e = Ra * Q'A p e) (hB : ∀ e, QB p e = Rb * Q'B p e)
    (hS : ∀ x y, Ra * Sab x y = Rb * Sba y x) :
    modelAmp Sab thA thB QA Q'B a (fun _ => i) (fun _ => j) p 0
      = modelAmp Sba thB thA QB Q'A a (fun _ => j) (fun _ => i) p 0 := by
  simp only [modelAmp]
  exact reciprocity_of_ratio _ _ _ _ Ra Rb _ _ (hA i) (hB j) (hS _ _)

/-- the mode constants `R_L = K/c_L²`, `R_T = −K/c_T²` turn hypothesis (ii) into the
scatterer relations of C09 -/
theorem scatterer_relation_LT {F : Type} [Field F] (K cL cT SLT STL : F) (hL : cL ≠ 0) (hT : cT ≠ 0)
    (h : cT ^ 2 * SLT = -(cL ^ 2 * STL)) :
    (K / cL ^ 2) * SLT = (-(K / cT ^ 2)) * STL := by
  field_simp
  linear_combination K * h

end structural

noncomputable section star
open Arim.Iface Arim.Weights Arim.Recip Arim.C04 Arim.C06

/-- `B = √(γ_1 ⋯ γ_{n−1}) · B_rev`, `γ_k` the interface factors of the direct routine: the
virtual distances satisfy `d_rev = (∏γ) · d` (`Weights.virtualDistance_reverse`). No Snell's law
is used. -/
theorem beamspread_ratio (legs vels thetas : List ℝ)
    (hlen : thetas.length + 1 = vels.length) (hlegs : legs.length = vels.length)
    (hpos : ∀ γ ∈ gammas rT vels thetas, 0 < γ) :
    beamspread rT legs vels thetas
      = Real.sqrt (gammas rT vels thetas).prod * revBeamspread rT legs vels thetas := by
  have hP : 0 < (gammas rT vels thetas).prod := List.prod_pos hpos
  rw [beamspread_eq, revBeamspread_eq, rT_one, rT_sqrt,
    rev_virtualDistance legs vels thetas hlen hlegs (fun γ hγ => (hpos γ hγ).ne'),
    Real.sqrt_mul hP.le, one_div, one_div, mul_inv, mul_inv_cancel_left₀ (Real.sqrt_pos.2 hP).ne']

theorem beamspread_ratio_sq (legs vels thetas : List ℝ)
    (hlen : thetas.length + 1 = vels.length) (hlegs : legs.length = vels.length)
    (hpos : ∀ γ ∈ gammas rT vels thetas, 0 < γ) :
    revBeamspread rT legs vels thetas ^ 2 * (gammas rT vels thetas).prod
      = beamspread rT legs vels thetas ^ 2 := by
  rw [beamspread_ratio legs vels thetas hlen hlegs hpos, mul_pow,
    Real.sq_sqrt (List.prod_pos hpos).le]
  ring

/-- Per-interface coefficient ratio, displacement units (`Recip.coefVal_ratio`):
`coef(direct) · ρ_out c_out cos θ_out = σ_in σ_out · coef(reverse) · ρ_in c_in cos θ_in` for the
front-wall transmission (`ℓ = none`, `L → b`) and for a reflection `a → b` against a solid|fluid
wall (`ℓ = some a`), `θ_out = snell θ_in` being the incidence angle of the reverse routine -/
theorem coef_ratio (asin : ℂ → ℂ) (m : Media ℂ) (hsin : ∀ x, Complex.sin (asin x) = x)
    (hρf : m.rhoF ≠ 0) (hρs : m.rhoS ≠ 0) (hcf : m.cF ≠ 0) (hcl : m.cL ≠ 0) (hct : m.cT ≠ 0)
    (ℓ : Leg) (b : Mode) (θ : ℂ) (hasin : asin (Complex.sin θ) = θ) (hcos : Complex.cos θ ≠ 0) :
    ∃ cd cr : ℂ,
      coef (cTrig asin) m true (specOf m ℓ b θ) = .ok cd ∧
      coef (cTrig asin) m true (revSpec (cTrig asin) (specOf m ℓ b θ)) = .ok cr ∧
      cd * (legRho m (some b) * legVel m (some b)
              * Complex.cos (snell (cTrig asin) θ (legVel m ℓ) (legVel m (some b))))
        = legSign ℓ * legSign (some b) * (cr * (legRho m ℓ * legVel m ℓ * Complex.cos θ)) :=
  ⟨_, _, (coef_specOf _ m true ℓ b θ).1, (coef_specOf _ m true ℓ b θ).2,
    coefVal_ratio asin m hsin hρf hρs hcf hcl hct ℓ b θ hasin hcos⟩

/-- the constant of (★): `R = σ(first) σ(last) · ρ₀ c₀^{3/2} / (ρ_n c_n^{3/2} · √(c_n / f))` -/
def ratioConst (m : Media ℝ) (f : ℝ) (ℓ₀ ℓ : Leg) : ℂ :=
  legSign ℓ₀ * legSign ℓ * ((legG m ℓ₀ / (legG m ℓ * Real.sqrt (legVel m ℓ / f)) : ℝ) : ℂ)

/-- the constant of (★) for an immersion path (first leg in the fluid) whose last leg has mode `a`:
`R_a = ± ρ_f c_f^{3/2} / (ρ_s c_a^{3/2} √(c_a/f))`, `+` for `L`, `−` for `T` -/
def modeConst (m : Media ℝ) (f : ℝ) (a : Mode) : ℂ := ratioConst m f none (some a)

/-- from the telescoped products (`key`, with the signed invariants `σ G`) to `T · B` against
`T_rev · B_rev · √λ` -/
theorem ratio_of_path {T Trev Γ Br σ₀ σ G₀ G lam : ℂ} (key : T * Γ * (σ * G) = Trev * (σ₀ * G₀))
    (hσ : σ * σ = 1) (hG : G ≠ 0) (hlam : lam ≠ 0) :
    T * (Γ * Br) = σ₀ * σ * (G₀ / (G * lam)) * (Trev * Br * lam) := by
  field_simp
  linear_combination (σ * Br) * key - (T * Γ * Br * G) * hσ

theorem txWeight_eq_mul_rxWeight {C : Type} [CommRing C] (sw : Switches)
    (hsw₁ : sw.transrefl = true) (hsw₂ : sw.beamspread = true) (dir att T Trev B Brev R lam : C)
    (h : T * B = R * (Trev * Brev * lam)) :
    txWeight sw 1 dir T B att = R * rxWeight sw 1 dir Trev Brev att lam := by
  rw [rx_eq_tx_mul, txWeight_eq, txWeight_eq, hsw₁, hsw₂, pick_true, pick_true, pick_true,
    pick_true]
  linear_combination (pick sw.directivity dir 1 * pick sw.attenuation att 1) * h

/-- (★) for every immersion-type path, whatever its first leg and the number of interfaces. With
the transmission/reflection and beamspread terms switched on (directivity and attenuation on or
off), `Q = R · Q'` with a constant that depends on the media, the frequency and the labels of the
first and last legs only; the transmission/reflection products are the values
`Recip.transRefl_specsFrom` gives. -/
theorem Q_ratio_val (asin : ℂ → ℂ) (hsin : ∀ x, Complex.sin (asin x) = x)
    (m : Media ℝ) (h : MediaPos m) (f : ℝ) (hf : 0 < f) (ℓ : Leg) (steps : List Step)
    (legs : List ℝ) (hlegs : legs.length = steps.length + 1)
    (hg : GoodFrom asin m ℓ steps)
    (sw : Switches) (hsw₁ : sw.transrefl = true) (hsw₂ : sw.beamspread = true) (dir att : ℂ) :
    txWeight sw 1 dir ((specsFrom (toC m) ℓ steps).map (coefVal (cTrig asin) (toC m) true)).prod
        (beamspread rT legs (velsFrom m ℓ steps) (steps.map (·.θ)) : ℝ) att
      = ratioConst m f ℓ (lastLeg ℓ steps)
        * rxWeight sw 1 dir (((specsFrom (toC m) ℓ steps).map (revSpec (cTrig asin))).map
            (coefVal (cTrig asin) (toC m) true)).prod
            (revBeamspread rT legs (velsFrom m ℓ steps) (steps.map (·.θ)) : ℝ)
            att (Real.sqrt (legVel m (lastLeg ℓ steps) / f) : ℝ) := by
  have hB := beamspread_ratio legs (velsFrom m ℓ steps) (steps.map (·.θ))
    (by rw [velsFrom_length]; simp) (by rw [velsFrom_length]; exact hlegs)
    (gammas_pos hsin h ℓ steps hg)
  refine txWeight_eq_mul_rxWeight sw hsw₁ hsw₂ _ _ _ _ _ _ _ _ ?_
  rw [hB, ratioConst]
  push_cast
  -- the goal is literally the conclusion of `ratio_of_path` with `Γ = √∏γ`, `Br` the reverse beamspread, `lam = √(c_n / f)`;
  -- `path_ratio` is its `key` by unfolding `legInv = σ G`
  exact ratio_of_path (path_ratio hsin h ℓ steps hg) (legSign_mul_self _)
    (Complex.ofReal_ne_zero.2 (legG_pos h _).ne')
    (Complex.ofReal_ne_zero.2 (Real.sqrt_pos.2 (div_pos (legVel_pos h _) hf)).ne')

/-- (★) for the immersion model: `Q = R_a · Q'`, `R_a` a function of the last mode `a` only.
For every path of the block-in-immersion model — probe, fluid, front-wall transmission into mode
`m₁`, then any number of reflections `m₁ → m₂ → …` against solid|fluid walls — with arbitrary real
incidence angles `θ_k` and leg lengths:

* `transRefl` and `revTransRefl` (displacement units) return values `T`, `T_rev`, no error;
* `txWeight … T B … = modeConst(a) · rxWeight … T_rev B_rev … √(c_a/f)` where `a` is the mode of the
  last leg, `B`, `B_rev` are `beamspread`, `revBeamspread`, and `modeConst(a) = ± K / c_a²`
  (`modeConst_mul_sq`) does not depend on the geometry.

Hypotheses: positive densities, velocities and frequency; the external arcsine is a right inverse
of the sine and returns the real angles of a pre-critical ray at every interior interface
(`GoodFrom`, met by `goodFrom_of_precritical`); the transmission/reflection and beamspread terms
are both switched on. -/
theorem Q_ratio_geometry_independent (asin : ℂ → ℂ) (hsin : ∀ x, Complex.sin (asin x) = x)
    (m : Media ℝ) (h : MediaPos m) (f : ℝ) (hf : 0 < f) (steps : List Step)
    (hne : steps ≠ []) (legs : List ℝ) (hlegs : legs.length = steps.length + 1)
    (hg : GoodFrom asin m none steps)
    (sw : Switches) (hsw₁ : sw.transrefl = true) (hsw₂ : sw.beamspread = true) (dir att : ℂ) :
    ∃ T Trev : ℂ,
      transRefl (cTrig asin) (toC m) true (specsFrom (toC m) none steps) = .ok (some T) ∧
      revTransRefl (cTrig asin) (toC m) true (specsFrom (toC m) none steps) = .ok (some Trev) ∧
      txWeight sw 1 dir T (beamspread rT legs (velsFrom m none steps) (steps.map (·.θ)) : ℝ) att
        = modeConst m f (steps.getLast hne).mOut
          * rxWeight sw 1 dir Trev
              (revBeamspread rT legs (velsFrom m none steps) (steps.map (·.θ)) : ℝ)
              att (Real.sqrt (velS m (steps.getLast hne).mOut / f) : ℝ) := by
  have := Q_ratio_val asin hsin m h f hf none steps legs hlegs hg sw hsw₁ hsw₂ dir att
  rw [lastLeg_eq_getLast none steps hne] at this
  exact ⟨_, _, (transRefl_specsFrom _ _ true none steps hne).1,
    (transRefl_specsFrom _ _ true none steps hne).2, this⟩

/-- the part of the constant of (★) that does not depend on the mode: `K = ρ_f c_f^{3/2} √f / ρ_s`, so that
`modeConst a = ± K / c_a²` (`modeConst_mul_sq`) -/
def constK (m : Media ℝ) (f : ℝ) : ℝ := m.rhoF * m.cF * Real.sqrt m.cF * Real.sqrt f / m.rhoS

theorem ratio_mul_sq {G ρ v f : ℝ} (hρ : ρ ≠ 0) (hv : 0 < v) (hf : 0 < f) :
    G / (ρ * v * √v * √(v / f)) * v ^ 2 = G * √f / ρ := by
  have hs : √f ≠ 0 := (Real.sqrt_pos.2 hf).ne'
  rw [Real.sqrt_div hv.le, ← mul_div_assoc, mul_assoc (ρ * v), Real.mul_self_sqrt hv.le]
  field_simp

/-- the constant of the immersion model is `± K / c_a²` (`K = constK m f`), `+` for `L`, `−` for
`T`, in multiplicative form -/
theorem modeConst_mul_sq (m : Media ℝ) (h : MediaPos m) (f : ℝ) (hf : 0 < f) (a : Mode) :
    modeConst m f a * ((velS m a : ℝ) : ℂ) ^ 2 = legSign (some a) * ((constK m f : ℝ) : ℂ) := by
  rw [modeConst, ratioConst]
  simp only [legSign, legVel, one_mul]
  rw [mul_assoc, ← Complex.ofReal_pow, ← Complex.ofReal_mul]
  exact congrArg _ (congrArg _ (ratio_mul_sq h.rhoS.ne' (velS_pos h a) hf))

/-- `R_L / R_T = − c_T² / c_L²`, in multiplicative form -/
theorem modeConst_L_T (m : Media ℝ) (h : MediaPos m) (f : ℝ) (hf : 0 < f) :
    modeConst m f .L * ((m.cL : ℝ) : ℂ) ^ 2 = -(modeConst m f .T * ((m.cT : ℝ) : ℂ) ^ 2) := by
  rw [show m.cL = velS m .L from rfl, show m.cT = velS m .T from rfl,
    modeConst_mul_sq m h f hf, modeConst_mul_sq m h f hf]
  simp only [legSign, one_mul, neg_mul, neg_neg]

/-- hypothesis (ii) of `reciprocity_of_ratio` for the model's constants is the scatterer relation
of C09: `c_T² S_LT(x,y) = − c_L² S_TL(y,x)` -/
theorem scatterer_relation_modeConst (m : Media ℝ) (h : MediaPos m) (f : ℝ) (hf : 0 < f) (SLT STL : ℂ)
    (hS : ((m.cT : ℝ) : ℂ) ^ 2 * SLT = -(((m.cL : ℝ) : ℂ) ^ 2 * STL)) :
    modeConst m f .L * SLT = modeConst m f .T * STL := by
  have hl := Complex.ofReal_ne_zero.2 h.cL.ne'
  have ht := Complex.ofReal_ne_zero.2 h.cT.ne'
  rw [eq_div_of_mul_eq (pow_ne_zero 2 hl) (modeConst_mul_sq m h f hf .L),
    eq_div_of_mul_eq (pow_ne_zero 2 ht) (modeConst_mul_sq m h f hf .T)]
  simp only [legSign, one_mul, neg_one_mul, neg_div]
  exact scatterer_relation_LT _ _ _ _ _ hl ht hS

/-- direct path (probe – front wall – scatterer, mode `b` in the solid) -/
theorem Q_ratio_direct (asin : ℂ → ℂ) (hsin : ∀ x, Complex.sin (asin x) = x)
    (m : Media ℝ) (h : MediaPos m) (f : ℝ) (hf : 0 < f) (b : Mode) (θ φ r₁ r₂ : ℝ)
    (hasin : asin (Complex.sin θ) = θ)
    (hφ : snell (cTrig asin) (θ : ℂ) (toC m).cF (velS (toC m) b) = φ)
    (hcθ : 0 < Real.cos θ) (hcφ : 0 < Real.cos φ)
    (sw : Switches) (hsw₁ : sw.transrefl = true) (hsw₂ : sw.beamspread = true) (dir att : ℂ) :
    ∃ T Trev : ℂ,
      transRefl (cTrig asin) (toC m) true
        [⟨true, .fluidSolid, .L, b, θ, (toC m).cF, velS (toC m) b⟩] = .ok (some T) ∧
      revTransRefl (cTrig asin) (toC m) true
        [⟨true, .fluidSolid, .L, b, θ, (toC m).cF, velS (toC m) b⟩] = .ok (some Trev) ∧
      txWeight sw 1 dir T (beamspread rT [r₁, r₂] [m.cF, velS m b] [θ] : ℝ) att
        = modeConst m f b
          * rxWeight sw 1 dir Trev (revBeamspread rT [r₁, r₂] [m.cF, velS m b] [θ] : ℝ) att
              (Real.sqrt (velS m b / f) : ℝ) :=
  Q_ratio_geometry_independent asin hsin m h f hf [⟨b, θ, φ⟩] (List.cons_ne_nil _ _) [r₁, r₂] rfl
    ⟨⟨hasin, hφ, hcθ, hcφ⟩, trivial⟩ sw hsw₁ hsw₂ dir att

/-- skip path (front wall into mode `a`, one reflection `a → b`) -/
theorem Q_ratio_skip (asin : ℂ → ℂ) (hsin : ∀ x, Complex.sin (asin x) = x)
    (m : Media ℝ) (h : MediaPos m) (f : ℝ) (hf : 0 < f) (a b : Mode)
    (θ₁ φ₁ θ₂ φ₂ r₁ r₂ r₃ : ℝ)
    (hasin₁ : asin (Complex.sin θ₁) = θ₁)
    (hφ₁ : snell (cTrig asin) (θ₁ : ℂ) (toC m).cF (velS (toC m) a) = φ₁)
    (hcθ₁ : 0 < Real.cos θ₁) (hcφ₁ : 0 < Real.cos φ₁)
    (hasin₂ : asin (Complex.sin θ₂) = θ₂)
    (hφ₂ : snell (cTrig asin) (θ₂ : ℂ) (velS (toC m) a) (velS (toC m) b) = φ₂)
    (hcθ₂ : 0 < Real.cos θ₂) (hcφ₂ : 0 < Real.cos φ₂)
    (sw : Switches) (hsw₁ : sw.transrefl = true) (hsw₂ : sw.beamspread = true) (dir att : ℂ) :
    ∃ T Trev : ℂ,
      transRefl (cTrig asin) (toC m) true
        [⟨true, .fluidSolid, .L, a, θ₁, (toC m).cF, velS (toC m) a⟩,
         ⟨false, .solidFluid, a, b, θ₂, velS (toC m) a, velS (toC m) b⟩] = .ok (some T) ∧
      revTransRefl (cTrig asin) (toC m) true
        [⟨true, .fluidSolid, .L, a, θ₁, (toC m).cF, velS (toC m) a⟩,
         ⟨false, .solidFluid, a, b, θ₂, velS (toC m) a, velS (toC m) b⟩] = .ok (some Trev) ∧
      txWeight sw 1 dir T
          (beamspread rT [r₁, r₂, r₃] [m.cF, velS m a, velS m b] [θ₁, θ₂] : ℝ) att
        = modeConst m f b
          * rxWeight sw 1 dir Trev
              (revBeamspread rT [r₁, r₂, r₃] [m.cF, velS m a, velS m b] [θ₁, θ₂] : ℝ) att
              (Real.sqrt (velS m b / f) : ℝ) :=
  Q_ratio_geometry_independent asin hsin m h f hf [⟨a, θ₁, φ₁⟩, ⟨b, θ₂, φ₂⟩] (List.cons_ne_nil _ _)
    [r₁, r₂, r₃] rfl ⟨⟨hasin₁, hφ₁, hcθ₁, hcφ₁⟩, ⟨hasin₂, hφ₂, hcθ₂, hcφ₂⟩, trivial⟩
    sw hsw₁ hsw₂ dir att

/-- double-skip path (front wall into mode `a`, reflections `a → b`, `b → c`) -/
theorem Q_ratio_double_skip (asin : ℂ → ℂ) (hsin : ∀ x, Complex.sin (asin x) = x)
    (m : Media ℝ) (h : MediaPos m) (f : ℝ) (hf : 0 < f) (a b c : Mode)
    (θ₁ φ₁ θ₂ φ₂ θ₃ φ₃ r₁ r₂ r₃ r₄ : ℝ)
    (hasin₁ : asin (Complex.sin θ₁) = θ₁)
    (hφ₁ : snell (cTrig asin) (θ₁ : ℂ) (toC m).cF (velS (toC m) a) = φ₁)
    (hcθ₁ : 0 < Real.cos θ₁) (hcφ₁ : 0 < Real.cos φ₁)
    (hasin₂ : asin (Complex.sin θ₂) = θ₂)
    (hφ₂ : snell (cTrig asin) (θ₂ : ℂ) (velS (toC m) a) (velS (toC m) b) = φ₂)
    (hcθ₂ : 0 < Real.cos θ₂) (hcφ₂ : 0 < Real.cos φ₂)
    (hasin₃ : asin (Complex.sin θ₃) = θ₃)
    (hφ₃ : snell (cTrig asin) (θ₃ : ℂ) (velS (toC m) b) (velS (toC m) c) = φ₃)
    (hcθ₃ : 0 < Real.cos θ₃) (hcφ₃ : 0 < Real.cos φ₃)
    (sw : Switches) (hsw₁ : sw.transrefl = true) (hsw₂ : sw.beamspread = true) (dir att : ℂ) :
    ∃ T Trev : ℂ,
      transRefl (cTrig asin) (toC m) true
        [⟨true, .fluidSolid, .L, a, θ₁, (toC m).cF, velS (toC m) a⟩,
         ⟨false, .solidFluid, a, b, θ₂, velS (toC m) a, velS (toC m) b⟩,
         ⟨false, .solidFluid, b, c, θ₃, velS (toC m) b, velS (toC m) c⟩] = .ok (some T) ∧
      revTransRefl (cTrig asin) (toC m) true
        [⟨true, .fluidSolid, .L, a, θ₁, (toC m).cF, velS (toC m) a⟩,
         ⟨false, .solidFluid, a, b, θ₂, velS (toC m) a, velS (toC m) b⟩,
         ⟨false, .solidFluid, b, c, θ₃, velS (toC m) b, velS (toC m) c⟩] = .ok (some Trev) ∧
      txWeight sw 1 dir T
          (beamspread rT [r₁, r₂, r₃, r₄] [m.cF, velS m a, velS m b, velS m c] [θ₁, θ₂, θ₃] : ℝ) att
        = modeConst m f c
          * rxWeight sw 1 dir Trev
              (revBeamspread rT [r₁, r₂, r₃, r₄] [m.cF, velS m a, velS m b, velS m c] [θ₁, θ₂, θ₃] : ℝ)
              att (Real.sqrt (velS m c / f) : ℝ) :=
  Q_ratio_geometry_independent asin hsin m h f hf [⟨a, θ₁, φ₁⟩, ⟨b, θ₂, φ₂⟩, ⟨c, θ₃, φ₃⟩] (List.cons_ne_nil _ _)
    [r₁, r₂, r₃, r₄] rfl
    ⟨⟨hasin₁, hφ₁, hcθ₁, hcφ₁⟩, ⟨hasin₂, hφ₂, hcθ₂, hcφ₂⟩, ⟨hasin₃, hφ₃, hcθ₃, hcφ₃⟩, trivial⟩
    sw hsw₁ hsw₂ dir att

/-- Reciprocity of the immersion model. Let `A` (from element `i`) and `B` (from element `j`)
be two immersion paths to the same scatterer, with last modes `a`, `b`, and let the scattering
amplitudes satisfy `R_a · S_ab = R_b · S_ba` (hypothesis (ii) of `reciprocity_of_ratio`; for
`a = b` it says `S_aa` symmetric, for `a ≠ b` it is `scatterer_relation_modeConst`). Then the
coefficient `S_ab · Q_A · Q'_B` of view `A–B` (transmit `i`, receive `j`) equals the coefficient
`S_ba · Q_B · Q'_A` of the reciprocal view (transmit `j`, receive `i`), where `Q`, `Q'` are the
weights `txWeight`, `rxWeight` assembled from the values of `transRefl`, `revTransRefl`,
`beamspread`, `revBeamspread`; no structural hypothesis on the weights is left. -/
theorem reciprocity_immersion (asin : ℂ → ℂ) (hsin : ∀ x, Complex.sin (asin x) = x)
    (m : Media ℝ) (h : MediaPos m) (f : ℝ) (hf : 0 < f)
    (stepsA stepsB : List Step) (hneA : stepsA ≠ []) (hneB : stepsB ≠ [])
    (legsA legsB : List ℝ) (hlegsA : legsA.length = stepsA.length + 1)
    (hlegsB : legsB.length = stepsB.length + 1)
    (hgA : GoodFrom asin m none stepsA) (hgB : GoodFrom asin m none stepsB)
    (sw : Switches) (hsw₁ : sw.transrefl = true) (hsw₂ : sw.beamspread = true)
    (dirA attA dirB attB Sab Sba : ℂ)
    (hS : modeConst m f (stepsA.getLast hneA).mOut * Sab
        = modeConst m f (stepsB.getLast hneB).mOut * Sba) :
    ∃ TA TrevA TB TrevB : ℂ,
      transRefl (cTrig asin) (toC m) true (specsFrom (toC m) none stepsA) = .ok (some TA) ∧
      revTransRefl (cTrig asin) (toC m) true (specsFrom (toC m) none stepsA) = .ok (some TrevA) ∧
      transRefl (cTrig asin) (toC m) true (specsFrom (toC m) none stepsB) = .ok (some TB) ∧
      revTransRefl (cTrig asin) (toC m) true (specsFrom (toC m) none stepsB) = .ok (some TrevB) ∧
      Sab
        * txWeight sw 1 dirA TA
            (beamspread rT legsA (velsFrom m none stepsA) (stepsA.map (·.θ)) : ℝ) attA
        * rxWeight sw 1 dirB TrevB
            (revBeamspread rT legsB (velsFrom m none stepsB) (stepsB.map (·.θ)) : ℝ) attB
            (Real.sqrt (velS m (stepsB.getLast hneB).mOut / f) : ℝ)
      = Sba
        * txWeight sw 1 dirB TB
            (beamspread rT legsB (velsFrom m none stepsB) (stepsB.map (·.θ)) : ℝ) attB
        * rxWeight sw 1 dirA TrevA
            (revBeamspread rT legsA (velsFrom m none stepsA) (stepsA.map (·.θ)) : ℝ) attA
            (Real.sqrt (velS m (stepsA.getLast hneA).mOut / f) : ℝ) := by
  obtain ⟨TA, TrevA, hTA, hTrA, hA⟩ := Q_ratio_geometry_independent asin hsin m h f hf stepsA hneA
    legsA hlegsA hgA sw hsw₁ hsw₂ dirA attA
  obtain ⟨TB, TrevB, hTB, hTrB, hB⟩ := Q_ratio_geometry_independent asin hsin m h f hf stepsB hneB
    legsB hlegsB hgB sw hsw₁ hsw₂ dirB attB
  exact ⟨TA, TrevA, TB, TrevB, hTA, hTrA, hTB, hTrB,
    reciprocity_of_ratio _ _ _ _ _ _ _ _ hA hB hS⟩

/-- an arcsine routine that is a right inverse of the complex sine and agrees with the real
arcsine on `[−1, 1]` (as the principal complex arcsine does) -/
def ExtendsArcsin (asin : ℂ → ℂ) : Prop :=
  (∀ x, Complex.sin (asin x) = x) ∧ ∀ r : ℝ, -1 ≤ r → r ≤ 1 → asin (r : ℂ) = (Real.arcsin r : ℝ)

theorem exists_extendsArcsin : ∃ asin : ℂ → ℂ, ExtendsArcsin asin := by
  classical
  -- the real arcsine of the real part wherever that inverts the sine, any preimage elsewhere
  refine ⟨fun x => if Complex.sin (Real.arcsin x.re : ℝ) = x then ((Real.arcsin x.re : ℝ) : ℂ)
    else Function.surjInv Complex.sin_surjective x, fun x => ?_, fun r h1 h2 => if_pos ?_⟩
  · beta_reduce
    split_ifs with hx
    · exact hx
    · exact Function.surjInv_eq Complex.sin_surjective x
  · rw [Complex.ofReal_re, ← Complex.ofReal_sin, Real.sin_arcsin h1 h2]

/-- pre-critical real geometry: incidence angles in `(−π/2, π/2)`, Snell arguments in `(−1, 1)`,
exit angles given by the real arcsine -/
def PrecriticalFrom (m : Media ℝ) : Leg → List Step → Prop
  | _, [] => True
  | ℓ, st :: sts =>
    (-(Real.pi / 2) < st.θ ∧ st.θ < Real.pi / 2 ∧
      -1 < legVel m (some st.mOut) / legVel m ℓ * Real.sin st.θ ∧
      legVel m (some st.mOut) / legVel m ℓ * Real.sin st.θ < 1 ∧
      st.φ = Real.arcsin (legVel m (some st.mOut) / legVel m ℓ * Real.sin st.θ)) ∧
    PrecriticalFrom m (some st.mOut) sts

/-- for an arcsine routine extending the real arcsine, every pre-critical real geometry satisfies
the hypotheses `GoodFrom` of the theorems above -/
theorem goodFrom_of_precritical (asin : ℂ → ℂ) (hext : ExtendsArcsin asin) (m : Media ℝ)
    (ℓ : Leg) (steps : List Step) (hp : PrecriticalFrom m ℓ steps) : GoodFrom asin m ℓ steps := by
  induction steps generalizing ℓ with
  | nil => trivial
  | cons st sts ih =>
    obtain ⟨⟨h1, h2, h3, h4, h5⟩, hrest⟩ := hp
    refine ⟨⟨?_, ?_, ?_, ?_⟩, ih _ hrest⟩
    · rw [← Complex.ofReal_sin, hext.2 _ (Real.neg_one_le_sin _) (Real.sin_le_one _),
        Real.arcsin_sin h1.le h2.le]
    · rw [snell_cTrig, legVel_toC, legVel_toC, ← Complex.ofReal_sin, ← Complex.ofReal_div,
        ← Complex.ofReal_mul, hext.2 _ h3.le h4.le, h5]
    · exact Real.cos_pos_of_mem_Ioo ⟨h1, h2⟩
    · rw [h5]
      exact Real.cos_pos_of_mem_Ioo
        ⟨Real.neg_pi_div_two_lt_arcsin.2 h3, Real.arcsin_lt_pi_div_two.2 h4⟩

/-- non-vacuity: a direct L path at normal incidence in water/aluminium-like media -/
example : ∃ asin : ℂ → ℂ, (∀ x, Complex.sin (asin x) = x) ∧
    GoodFrom asin ⟨1000, 2700, 1480, 6320, 3130⟩ none [⟨.L, 0, 0⟩] := by
  obtain ⟨asin, hext⟩ := exists_extendsArcsin
  refine ⟨asin, hext.1, goodFrom_of_precritical asin hext _ _ _ ?_⟩
  have := Real.pi_pos
  refine ⟨⟨by linarith, by linarith, by simp, by simp, by simp⟩, trivial⟩

end star


/-! On the source as translated on this run.

`SrcC03.tx_ray_weights` / `SrcC03.rx_ray_weights` (file `Generated/SrcC03.lean`) are read from
`/repo/src/arim/models/block_in_immersion.py` on every run: which switch guards which factor, which model function supplies
it, the order of the product, the `sqrt(lambda)` normalisation.  `Tie.C03` identifies them with `txWeight` / `rxWeight`, so
`reciprocity_immersion` is a statement about the weights as the source assembles them. -/
noncomputable section OnSource
open Arim.Tie.C03 Arim.Iface Arim.Weights Arim.Recip Arim.C04 Arim.C06

/-- reciprocity with the weights assembled by the translated source: the factor record of view end `A` holds the values of
`transRefl` / `revTransRefl` (displacement units) and of the two beamspreads of path `A`, likewise `B`; then the coefficient of
view `A–B` (transmit `i`, receive `j`) equals that of the reciprocal view (transmit `j`, receive `i`) -/
theorem src_reciprocity_immersion (asin : ℂ → ℂ) (hsin : ∀ x, Complex.sin (asin x) = x)
    (m : Media ℝ) (h : MediaPos m) (f : ℝ) (hf : 0 < f)
    (stepsA stepsB : List Step) (hneA : stepsA ≠ []) (hneB : stepsB ≠ [])
    (legsA legsB : List ℝ) (hlegsA : legsA.length = stepsA.length + 1)
    (hlegsB : legsB.length = stepsB.length + 1)
    (hgA : GoodFrom asin m none stepsA) (hgB : GoodFrom asin m none stepsB)
    (ud ua : Bool) (FA FB : Arim.SrcC03.Factors ℂ) (Sab Sba : ℂ)
    (hFA₁ : transRefl (cTrig asin) (toC m) true (specsFrom (toC m) none stepsA) = .ok (some FA.transrefl_fwd_displacement))
    (hFA₂ : revTransRefl (cTrig asin) (toC m) true (specsFrom (toC m) none stepsA) = .ok (some FA.transrefl_rev_displacement))
    (hFB₁ : transRefl (cTrig asin) (toC m) true (specsFrom (toC m) none stepsB) = .ok (some FB.transrefl_fwd_displacement))
    (hFB₂ : revTransRefl (cTrig asin) (toC m) true (specsFrom (toC m) none stepsB) = .ok (some FB.transrefl_rev_displacement))
    (hbA₁ : FA.beamspread_fwd = (beamspread rT legsA (velsFrom m none stepsA) (stepsA.map (·.θ)) : ℝ))
    (hbA₂ : FA.beamspread_rev = (revBeamspread rT legsA (velsFrom m none stepsA) (stepsA.map (·.θ)) : ℝ))
    (hbB₁ : FB.beamspread_fwd = (beamspread rT legsB (velsFrom m none stepsB) (stepsB.map (·.θ)) : ℝ))
    (hbB₂ : FB.beamspread_rev = (revBeamspread rT legsB (velsFrom m none stepsB) (stepsB.map (·.θ)) : ℝ))
    (hlA : FA.sqrt_lambda_last_mode = (Real.sqrt (velS m (stepsA.getLast hneA).mOut / f) : ℝ))
    (hlB : FB.sqrt_lambda_last_mode = (Real.sqrt (velS m (stepsB.getLast hneB).mOut / f) : ℝ))
    (hS : modeConst m f (stepsA.getLast hneA).mOut * Sab = modeConst m f (stepsB.getLast hneB).mOut * Sba) :
    Sab * Arim.SrcC03.tx_ray_weights ud true true ua 1 FA * Arim.SrcC03.rx_ray_weights ud true true ua 1 FB
      = Sba * Arim.SrcC03.tx_ray_weights ud true true ua 1 FB * Arim.SrcC03.rx_ray_weights ud true true ua 1 FA := by
  obtain ⟨TA, TrevA, TB, TrevB, h1, h2, h3, h4, hrec⟩ := reciprocity_immersion asin hsin m h f hf stepsA stepsB hneA hneB
    legsA legsB hlegsA hlegsB hgA hgB ⟨ud, true, true, ua⟩ rfl rfl FA.directivity FA.attenuation FB.directivity FB.attenuation Sab Sba hS
  cases hFA₁.symm.trans h1; cases hFA₂.symm.trans h2; cases hFB₁.symm.trans h3; cases hFB₂.symm.trans h4
  rw [tie_tx_ray_weights, tie_rx_ray_weights, tie_tx_ray_weights, tie_rx_ray_weights, hbA₁, hbA₂, hbB₁, hbB₂, hlA, hlB]
  exact hrec

end OnSource

end Arim.C03
