import ArimModel.Weights
import ArimProofs.Tie.C07
import ArimProofs.Lemmas.Weights
import ArimProofs.Lemmas.WeightsReal
import Mathlib.Analysis.SpecialFunctions.Trigonometric.Inverse
/-! # C07 — receive-side (reverse) terms equal transmit-side terms of the reversed path -/
namespace Arim.C07
open Arim.Weights Arim.Iface

section shape
variable {C : Type} [Add C] [Sub C] [Mul C] [Div C] [Neg C]

/-- the reverse product is the direct product over the interfaces seen from the other side:
modes and velocities swapped, the kind reversed for a transmission and kept for a reflection,
the incidence angle replaced by its Snell image -/
theorem revTransRefl_def (t : CTrig C) (m : Media C) (disp : Bool) (specs : List (IfaceSpec C)) :
    revTransRefl t m disp specs = transRefl t m disp (specs.map (revSpec t)) := rfl

omit [Add C] [Sub C] [Neg C] in
theorem revSpec_revSpec_shape (t : CTrig C) (s : IfaceSpec C) :
    (revSpec t (revSpec t s)).kind = s.kind ∧ (revSpec t (revSpec t s)).modeIn = s.modeIn ∧
    (revSpec t (revSpec t s)).modeOut = s.modeOut ∧ (revSpec t (revSpec t s)).vIn = s.vIn ∧
    (revSpec t (revSpec t s)).vOut = s.vOut := by
  obtain ⟨tr, k, mi, mo, th, vi, vo⟩ := s
  cases tr <;> cases k <;> simp [revSpec, Kind.rev]

end shape

section atten
variable {K : Type} [CommRing K]

theorem attenuation_eq_sum (t : RTrig K) (alphas legs : List K) :
    attenuation t alphas legs =
      t.exp (t.zero - ((List.zip alphas legs).map (fun p => p.1 * p.2)).sum) := by
  unfold attenuation; rw [foldl_sub_eq]

theorem attenuation_perm (t : RTrig K) {alphas legs alphas' legs' : List K}
    (h : (List.zip alphas legs).Perm (List.zip alphas' legs')) :
    attenuation t alphas legs = attenuation t alphas' legs' := by
  rw [attenuation_eq_sum, attenuation_eq_sum, (h.map _).sum_eq]

/-- the attenuation of the reversed path (legs and coefficients listed from the far end) is that of the direct path -/
theorem attenuation_reverse (t : RTrig K) (alphas legs : List K) (h : alphas.length = legs.length) :
    attenuation t alphas.reverse legs.reverse = attenuation t alphas legs := by
  refine attenuation_perm t ?_
  unfold List.zip
  rw [← List.reverse_zipWith h]
  exact List.reverse_perm _

end atten

section prod
variable {C : Type} [CommMonoid C] [Add C] [Sub C] [Div C] [Neg C]

/-- the only error `transRefl` can report is `physics` (a transverse wave in the fluid) -/
theorem coef_error_physics (t : CTrig C) (m : Media C) (disp : Bool) (s : IfaceSpec C) (e : IErr)
    (h : coef t m disp s = .error e) : e = .physics := coef_error h

/-- `transmission_reflection_for_path` as a product (`none` for a path without interior interface). The coefficient
functions are arbitrary (any `CTrig`), so complex post-critical values are covered. -/
theorem transRefl_eq_prod (t : CTrig C) (m : Media C) (disp : Bool) (specs : List (IfaceSpec C))
    (cs : List C) (h : List.Forall₂ (fun s c => coef t m disp s = .ok c) specs cs) :
    transRefl t m disp specs = .ok (if specs = [] then none else some cs.prod) :=
  transRefl_of_forall₂ t m disp h

/-- unconditional: if a coefficient is an error both sides are `error physics` -/
theorem transRefl_reverse_invariant (t : CTrig C) (m : Media C) (disp : Bool)
    (specs : List (IfaceSpec C)) :
    transRefl t m disp specs.reverse = transRefl t m disp specs :=
  transRefl_perm t m disp (List.reverse_perm specs)

/-- the reverse product is the direct product on the physically reversed path, which meets the reversed interfaces in
the opposite order -/
theorem revTransRefl_eq_reversed (t : CTrig C) (m : Media C) (disp : Bool)
    (specs : List (IfaceSpec C)) :
    transRefl t m disp ((specs.map (revSpec t)).reverse) = revTransRefl t m disp specs := by
  rw [revTransRefl, transRefl_reverse_invariant]

theorem revTransRefl_eq_reversed' (t : CTrig C) (m : Media C) (disp : Bool)
    (specs : List (IfaceSpec C)) :
    transRefl t m disp (specs.reverse.map (revSpec t)) = revTransRefl t m disp specs := by
  rw [List.map_reverse]; exact revTransRefl_eq_reversed t m disp specs

end prod

section gam
variable {K : Type} [Field K]

/-- `γ' = 1/γ`: the factor `ν' c² / (1 − ν'² s²)` of the reverse routine at `ν' = 1/ν` is the inverse of the direct factor
`(ν² − s²)/(ν c²)`. No Snell's law, and no side condition: where a denominator vanishes both sides are `0`. -/
theorem revGamma_eq_inv (ν s c : K) :
    ((1 / ν) * c * c) / (1 - (1 / ν) * (1 / ν) * s * s) = 1 / ((ν * ν - s * s) / (ν * c * c)) := by
  rw [one_div, one_div]; exact revGamma_inv_aux ν s c

/-- the `k`-th reverse factor, computed from the direct incidence angle at interface `n−k`, is the inverse of the direct
factor of that interface -/
theorem revGammas_inv (t : RTrig K) (hone : t.one = 1) (vels thetas : List K)
    (hlen : thetas.length + 1 = vels.length) :
    revGammas t vels.reverse thetas.reverse = ((gammas t vels thetas).map (·⁻¹)).reverse := by
  simp only [revGammas_eq_map, gammas_eq_map, ifaces_reverse _ _ hlen, List.map_reverse, List.map_map,
    Function.comp_def, revGammaF_eq_inv t hone]

/-- Snell's law at every interior interface: `thetas` are the incidence angles and `thetaOuts` the
refraction/reflection angles of the direct ray, `vIn sin θOut = vOut sin θIn` -/
def SnellLinked (t : RTrig K) (vels thetas thetaOuts : List K) : Prop :=
  ∀ i ∈ ifaces vels (thetas.zip thetaOuts), i.1 * t.sin i.2.2.2 = i.2.1 * t.sin i.2.2.1

theorem snellLinked_of_index (t : RTrig K) (vels thetas thetaOuts : List K)
    (h : ∀ k (h1 : k + 1 < vels.length) (h2 : k < thetas.length) (h3 : k < thetaOuts.length),
      vels[k]'(Nat.lt_of_succ_lt h1) * t.sin thetaOuts[k] = vels[k + 1] * t.sin thetas[k]) :
    SnellLinked t vels thetas thetaOuts := by
  intro i hi
  obtain ⟨k, hk, rfl⟩ := List.getElem_of_mem hi
  obtain ⟨h1, h2, e⟩ := getElem_ifaces _ _ k hk
  rw [e, List.getElem_zip]
  rw [List.length_zip, lt_min_iff] at h2
  exact h k h1 h2.1 h2.2

/-- under Snell, the reverse routine's factors are the DIRECT factors of the reversed ray, whose
incidence angles are the `θOut` of the direct ray in reverse order -/
theorem revGammas_eq_gammas_reversed (t : RTrig K) (hone : t.one = 1)
    (hpyth : ∀ x, t.cos x * t.cos x = 1 - t.sin x * t.sin x)
    (vels thetas thetaOuts : List K)
    (hlen : thetas.length + 1 = vels.length) (hlen' : thetaOuts.length = thetas.length)
    (hv : ∀ v ∈ vels, v ≠ 0) (hsnell : SnellLinked t vels thetas thetaOuts) :
    revGammas t vels.reverse thetas.reverse = gammas t vels.reverse thetaOuts.reverse := by
  rw [revGammas_eq_map, gammas_eq_map, ifaces_reverse _ _ hlen, ifaces_reverse _ _ (hlen' ▸ hlen)]
  -- both sides as maps over the interfaces carrying the pair `(θ, θOut)`
  conv_lhs => rw [← List.map_fst_zip hlen'.ge]
  conv_rhs => rw [← List.map_snd_zip hlen'.le]
  simp only [ifaces_map_right, List.map_reverse, List.map_map]
  refine congrArg _ (List.map_congr_left fun i hi => ?_)
  have hm := mem_of_mem_ifaces hi
  exact revGammaF_eq_gammaF_reversed t hone hpyth i.1 i.2.1 i.2.2.1 i.2.2.2 (hv _ hm.1) (hv _ hm.2.1) (hsnell i hi)

/-- the reverse beamspread is the direct beamspread of the reversed ray (any field, abstract `sin`/`cos` with
`sin² + cos² = 1`) -/
theorem revBeamspread_eq_reversed (t : RTrig K) (hone : t.one = 1)
    (hpyth : ∀ x, t.cos x * t.cos x = 1 - t.sin x * t.sin x)
    (legs vels thetas thetaOuts : List K)
    (hlen : thetas.length + 1 = vels.length) (hlen' : thetaOuts.length = thetas.length)
    (hv : ∀ v ∈ vels, v ≠ 0) (hsnell : SnellLinked t vels thetas thetaOuts) :
    revBeamspread t legs vels thetas = beamspread t legs.reverse vels.reverse thetaOuts.reverse := by
  rw [revBeamspread_eq, beamspread_eq, revGammas_eq_gammas_reversed t hone hpyth vels thetas thetaOuts hlen hlen' hv hsnell]

end gam

section invol
variable {C : Type} [Field C]

theorem revSpec_involutive_angle (t : CTrig C) (s : IfaceSpec C) (hIn : s.vIn ≠ 0) (hOut : s.vOut ≠ 0)
    (hsin : t.sin (t.asin (s.vOut / s.vIn * t.sin s.theta)) = s.vOut / s.vIn * t.sin s.theta)
    (hasin : t.asin (t.sin s.theta) = s.theta) :
    (revSpec t (revSpec t s)).theta = s.theta := by
  simp only [revSpec, snell, hsin]
  rw [← mul_assoc, div_mul_div_comm, mul_comm s.vIn, div_self (mul_ne_zero hOut hIn), one_mul, hasin]

theorem revSpec_involutive (t : CTrig C) (s : IfaceSpec C) (hIn : s.vIn ≠ 0) (hOut : s.vOut ≠ 0)
    (hsin : t.sin (t.asin (s.vOut / s.vIn * t.sin s.theta)) = s.vOut / s.vIn * t.sin s.theta)
    (hasin : t.asin (t.sin s.theta) = s.theta) :
    revSpec t (revSpec t s) = s := by
  have hθ := revSpec_involutive_angle t s hIn hOut hsin hasin
  have hk := (revSpec_revSpec_shape t s).1
  obtain ⟨tr, k, mi, mo, th, vi, vo⟩ := s
  simp only [revSpec, IfaceSpec.mk.injEq, true_and, and_true] at hθ hk ⊢
  exact ⟨hk, hθ⟩

end invol

section invol_real

/-- the real `CTrig` (real sine, cosine and arcsine), used for the theorem on real angles -/
noncomputable def tR : CTrig ℝ :=
  { sin := Real.sin, cos := Real.cos, asin := Real.arcsin, ofNat := fun n => (n : ℝ) }

/-- real angles: the angle comes back when the interface is pre-critical (`|vOut/vIn · sin θ| ≤ 1`) and the incidence
angle is in `[−π/2, π/2]` -/
theorem revSpec_involutive_angle_real (s : IfaceSpec ℝ) (hIn : s.vIn ≠ 0) (hOut : s.vOut ≠ 0)
    (hlo : -1 ≤ s.vOut / s.vIn * Real.sin s.theta) (hhi : s.vOut / s.vIn * Real.sin s.theta ≤ 1)
    (hθlo : -(Real.pi / 2) ≤ s.theta) (hθhi : s.theta ≤ Real.pi / 2) :
    (revSpec tR (revSpec tR s)).theta = s.theta :=
  revSpec_involutive_angle tR s hIn hOut (Real.sin_arcsin hlo hhi) (Real.arcsin_sin hθlo hθhi)

end invol_real

section examples
open Arim.C06

/-- `exp = id`: `0 − 1·3 − 2·4 = −11` both ways -/
example : attenuation tQ [1, 2] [3, 4] = -11 ∧ attenuation tQ [2, 1] [4, 3] = -11 := by
  decide +kernel

example : attenuation tQ ([1, 2] : List ℚ).reverse ([3, 4] : List ℚ).reverse = attenuation tQ [1, 2] [3, 4] :=
  attenuation_reverse tQ _ _ rfl

/-- the length hypothesis of `attenuation_reverse` is needed: `zip` truncates at the other end -/
example : attenuation tQ ([1] : List ℚ).reverse ([3, 4] : List ℚ).reverse ≠ attenuation tQ [1] [3, 4] := by
  decide +kernel

/-- `γ' = 1/γ` at `ν = 2, s = 1, c = 1`: `γ = 3/2`, `γ' = 2/3` -/
example : ((1 / 2 : ℚ) * 1 * 1) / (1 - (1 / 2) * (1 / 2) * 1 * 1) = 2 / 3 ∧
    1 / (((2 : ℚ) * 2 - 1 * 1) / (2 * 1 * 1)) = 2 / 3 := by norm_num

theorem tQ_pyth (x : ℚ) : tQ.cos x * tQ.cos x = 1 - tQ.sin x * tQ.sin x := by
  simp only [tQ]; split_ifs <;> norm_num

/-- the 3-4-5 interface of `C06`: incidence `0` (`sin = 3/5`) and refraction `1` (`sin = 4/5`) are
Snell-linked for `vIn = 3`, `vOut = 4` -/
example : SnellLinked tQ [3, 4] [0] [1] := by
  unfold SnellLinked; decide +kernel

example : revBeamspread tQ [1, 2] [3, 4] [0] = beamspread tQ [2, 1] [4, 3] [1] :=
  revBeamspread_eq_reversed tQ rfl tQ_pyth [1, 2] [3, 4] [0] [1] rfl rfl (by decide +kernel)
    (by unfold SnellLinked; decide +kernel)

/-- both sides are `1/(2 + 1/(64/27)) = 64/155` (with `sqrt = id`) -/
example : revBeamspread tQ [1, 2] [3, 4] [0] = 64 / 155 ∧ beamspread tQ [2, 1] [4, 3] [1] = 64 / 155 := by
  decide +kernel

/-- Snell is needed: with the wrong angle for the reversed ray the two differ -/
example : revBeamspread tQ [1, 2] [3, 4] [0] ≠ beamspread tQ [2, 1] [4, 3] [0] := by
  decide +kernel

/-- real angles, normal incidence: Snell holds for any velocities -/
example : revBeamspread rT [1, 2] [1, 2] [0] = beamspread rT [2, 1] [2, 1] [0] := by
  refine revBeamspread_eq_reversed rT rfl rT_pyth [1, 2] [1, 2] [0] [0] rfl rfl (by simp)
    (snellLinked_of_index rT _ _ _ ?_)
  intro k h1 h2 h3
  have hk : k = 0 := by simpa using h2
  subst hk; simp [rT]

/-- a rational model of the coefficient routines (all angles evaluate as normal incidence) -/
def tq : CTrig ℚ := { sin := fun _ => 0, cos := fun _ => 1, asin := fun _ => 0, ofNat := fun n => n }
def mq : Media ℚ := { rhoF := 1, rhoS := 2, cF := 1, cL := 2, cT := 1 }
def s1 : IfaceSpec ℚ := ⟨true, .fluidSolid, .L, .L, 0, 1, 2⟩
def s2 : IfaceSpec ℚ := ⟨false, .solidFluid, .L, .L, 0, 2, 2⟩
def s3 : IfaceSpec ℚ := ⟨true, .solidFluid, .L, .L, 0, 2, 1⟩
def sBad : IfaceSpec ℚ := ⟨true, .fluidSolid, .T, .L, 0, 1, 2⟩

theorem coef_s1 : coef tq mq false s1 = .ok (8 / 5) := by decide +kernel
theorem coef_s2 : coef tq mq false s2 = .ok (-3 / 5) := by decide +kernel
theorem coef_s3 : coef tq mq false s3 = .ok (2 / 5) := by decide +kernel

example : transRefl tq mq false [s1, s2, s3] = .ok (some (-48 / 125)) := by
  rw [transRefl_eq_prod tq mq false [s1, s2, s3] [8 / 5, -3 / 5, 2 / 5]
    (.cons coef_s1 (.cons coef_s2 (.cons coef_s3 .nil))), if_neg (by simp)]
  norm_num

example : transRefl tq mq false (([s1, s2, s3].map (revSpec tq)).reverse) =
    revTransRefl tq mq false [s1, s2, s3] :=
  revTransRefl_eq_reversed tq mq false _

/-- a transverse wave incident from the fluid: both orders report `physics` -/
example : transRefl tq mq false [s1, sBad, s3] = .error .physics ∧
    transRefl tq mq false [s1, sBad, s3].reverse = .error .physics := ⟨rfl, rfl⟩

/-- the statements apply to any field, in particular to `ℂ` (post-critical coefficients) -/
example {C : Type} [Field C] (t : CTrig C) (m : Media C) (disp : Bool) (specs : List (IfaceSpec C)) :
    transRefl t m disp ((specs.map (revSpec t)).reverse) = revTransRefl t m disp specs :=
  revTransRefl_eq_reversed t m disp specs

example : (revSpec tR (revSpec tR ⟨true, .fluidSolid, .L, .L, 0, 1, 2⟩)).theta = 0 :=
  revSpec_involutive_angle_real _ one_ne_zero two_ne_zero (by simp) (by simp)
    (neg_nonpos.2 Real.pi_div_two_pos.le) Real.pi_div_two_pos.le

end examples

/-! The same about `Src.reverse_beamspread_2d_for_path` and `Src.beamspread_2d_for_path`, the translations made from
`/repo/src` on every run; `Tie.C07.tie_reverse_beamspread` and `Tie.C06.tie_beamspread` identify them with the model. -/
section OnSource
open Arim.C06 Arim.Tie.C06 Arim.Tie.C07

/-- `vel'`, `ang'`, `leg'` are the ray-geometry queries of the reversed path: legs and velocities in reverse order, incidence
angles `ang'` linked to the direct incidence angles by Snell's law at every interior interface -/
theorem src_reverse_beamspread_eq_reversed (ni : Nat) (vel ang leg vel' ang' leg' : Nat → ℝ) (hn : 2 ≤ ni)
    (hleg : legsOf leg' (ni - 1) = (legsOf leg (ni - 1)).reverse)
    (hvel : velsOf vel' (ni - 1) = (velsOf vel (ni - 1)).reverse)
    (hv : ∀ v ∈ velsOf vel (ni - 1), v ≠ 0)
    (hsnell : ∀ k (h1 : k + 1 < (velsOf vel (ni - 1)).length) (h2 : k < (angsOf ang (ni - 1)).length)
        (h3 : k < (angsOf ang' (ni - 1)).reverse.length),
      (velsOf vel (ni - 1))[k] * Real.sin ((angsOf ang' (ni - 1)).reverse[k])
        = (velsOf vel (ni - 1))[k + 1] * Real.sin ((angsOf ang (ni - 1))[k])) :
    Src.reverse_beamspread_2d_for_path srcOps ni vel ang leg = Src.beamspread_2d_for_path srcOps ni vel' ang' leg' := by
  rw [tie_reverse_beamspread srcOps ni vel ang leg hn, tie_beamspread srcOps ni vel' ang' leg' hn, rtrig_srcOps,
    revBeamspread_eq_reversed rT rfl rT_pyth _ _ _ (angsOf ang' (ni - 1)).reverse
      (by rw [length_angsOf, length_velsOf]; omega) (by rw [List.length_reverse, length_angsOf, length_angsOf]) hv
      (snellLinked_of_index rT _ _ _ hsnell),
    hleg, hvel, List.reverse_reverse]

end OnSource

end Arim.C07
