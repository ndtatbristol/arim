import ArimModel.Interface
import ArimProofs.Tie.C04
import ArimProofs.Lemmas.Interface
import Mathlib.Analysis.SpecialFunctions.Trigonometric.Basic
import Mathlib.Analysis.SpecialFunctions.Trigonometric.Inverse
import Mathlib.Analysis.SpecialFunctions.Log.Basic
import Mathlib.Data.Complex.Basic
import Mathlib.Tactic.Ring
import Mathlib.Tactic.LinearCombination
import Mathlib.Tactic.NormNum
/-! # C04 — interface coefficients obey Snell, energy conservation and Stokes relations -/
namespace Arim.C04
open Arim.Iface

section Helpers
variable {K : Type} [Add K] [Sub K] [Mul K] [Div K] [Neg K]

/-- in stress units the helper returns the fluid→solid transmission coefficient of the
requested mode, computed with Snell-refracted angles -/
theorem transmission_fluid_solid_stress (t : CTrig K) (m : Media K) (mOut : Mode) (a : K) :
    transmissionAt t m .fluidSolid .L mOut a false =
      .ok (match mOut with
        | .L => (fluidSolid t m a (snell t a m.cF m.cL) (snell t a m.cF m.cT)).2.1
        | .T => (fluidSolid t m a (snell t a m.cF m.cL) (snell t a m.cF m.cT)).2.2) := by
  cases mOut <;> rfl

/-- a transverse wave cannot be incident from the fluid -/
theorem transmission_fluid_T_rejected (t : CTrig K) (m : Media K) (mOut : Mode) (a : K) (d : Bool) :
    transmissionAt t m .fluidSolid .T mOut a d = .error .physics := rfl

omit [Add K] [Sub K] [Div K] [Neg K] in
@[simp] theorem withUnits_false (v r : K) : withUnits false v r = v := rfl
omit [Add K] [Sub K] [Div K] [Neg K] in
@[simp] theorem withUnits_true (v r : K) : withUnits true v r = v * r := rfl

theorem transmission_fluid_solid (t : CTrig K) (m : Media K) (mOut : Mode) (a : K) (disp : Bool) :
    transmissionAt t m .fluidSolid .L mOut a disp =
      .ok (withUnits disp
        (pickTrans (fluidSolid t m a (snell t a m.cF m.cL) (snell t a m.cF m.cT)) mOut)
        ((m.rhoF * m.cF) / (m.rhoS * velS m mOut))) := by
  cases mOut <;> cases disp <;> rfl

theorem transmission_solid_fluid (t : CTrig K) (m : Media K) (mInc : Mode) (a : K) (disp : Bool) :
    transmissionAt t m .solidFluid mInc .L a disp =
      .ok (withUnits disp (solidFluidAt t m mInc a).2.2
        ((m.rhoS * velS m mInc) / (m.rhoF * m.cF))) := by
  cases mInc <;> cases disp <;> rfl

/-- a transverse wave cannot be transmitted into the fluid -/
theorem transmission_solid_T_rejected (t : CTrig K) (m : Media K) (mInc : Mode) (a : K) (d : Bool) :
    transmissionAt t m .solidFluid mInc .T a d = .error .physics := rfl

/-- `transmission_at_interface` fails exactly for a transverse wave on the fluid side, and then
with the `physics` error -/
theorem transmission_eq_error_iff (t : CTrig K) (m : Media K) (k : Kind) (mInc mOut : Mode) (a : K)
    (d : Bool) (e : IErr) :
    transmissionAt t m k mInc mOut a d = .error e ↔
      e = .physics ∧ ((k = .fluidSolid ∧ mInc = .T) ∨ (k = .solidFluid ∧ mOut = .T)) := by
  cases k
  · cases mInc
    · simp [transmission_fluid_solid]
    · simp [transmission_fluid_T_rejected, eq_comm]
  · cases mOut
    · simp [transmission_solid_fluid]
    · simp [transmission_solid_T_rejected, eq_comm]

theorem transmission_error_iff (t : CTrig K) (m : Media K) (k : Kind) (mInc mOut : Mode) (a : K)
    (d : Bool) :
    (∃ e, transmissionAt t m k mInc mOut a d = .error e) ↔
      (k = .fluidSolid ∧ mInc = .T) ∨ (k = .solidFluid ∧ mOut = .T) := by
  simp only [transmission_eq_error_iff, exists_and_right, exists_eq, true_and]

theorem transmission_error_is_physics (t : CTrig K) (m : Media K) (k : Kind) (mInc mOut : Mode)
    (a : K) (d : Bool) (e : IErr) (h : transmissionAt t m k mInc mOut a d = .error e) :
    e = .physics :=
  ((transmission_eq_error_iff t m k mInc mOut a d e).1 h).1

theorem reflection_solid_fluid (t : CTrig K) (m : Media K) (mInc mOut : Mode) (a : K) (disp : Bool) :
    reflectionAt t m .solidFluid mInc mOut a disp =
      .ok (withUnits disp (pickRefl (solidFluidAt t m mInc a) mOut) (velS m mInc / velS m mOut)) := by
  cases mInc <;> cases mOut <;> cases disp <;> rfl

theorem reflection_fluid_solid (t : CTrig K) (m : Media K) (mInc mOut : Mode) (a : K) (disp : Bool) :
    reflectionAt t m .fluidSolid mInc mOut a disp =
      .ok (withUnits disp (fluidSolid t m a (snell t a m.cF m.cL) (snell t a m.cF m.cT)).1
        (m.cF / m.cF)) := by
  cases disp <;> rfl

theorem reflection_never_error (t : CTrig K) (m : Media K) (k : Kind) (mInc mOut : Mode) (a : K)
    (d : Bool) : ∃ v, reflectionAt t m k mInc mOut a d = .ok v := by
  cases k
  · exact ⟨_, reflection_fluid_solid t m mInc mOut a d⟩
  · exact ⟨_, reflection_solid_fluid t m mInc mOut a d⟩

end Helpers

noncomputable section Cplx
open Complex

variable (asin : ℂ → ℂ) (m : Media ℂ) (aF aL aT : ℂ)

/-- Stokes relation, L wave (stress units): the solid→fluid transmission of an incident L wave is
the fluid→solid transmission into L times `Z_f cos α_L / (Z_L cos α_F)`. With the field convention
`x / 0 = 0` no side condition is needed. -/
theorem stokes_L :
    (solidLFluid (cTrig asin) m aF aL aT).2.2 =
      m.rhoF * m.cF * cos aL / (m.rhoS * m.cL * cos aF)
        * (fluidSolid (cTrig asin) m aF aL aT).2.1 := by
  rw [solidLFluid_cTrig, fluidSolid_cTrig]
  simp only
  ring

/-- Stokes relation, T wave, with the sign flip: needs Snell's law between the L and T angles in
the solid. -/
theorem stokes_T (hcl : m.cL ≠ 0) (hct : m.cT ≠ 0)
    (hsnell : m.cL * sin aT = m.cT * sin aL) :
    (solidTFluid (cTrig asin) m aF aL aT).2.2 =
      -(m.rhoF * m.cF * cos aT / (m.rhoS * m.cT * cos aF))
        * (fluidSolid (cTrig asin) m aF aL aT).2.2 := by
  rw [solidTFluid_cTrig, fluidSolid_cTrig]
  simp only
  have h : cos aL * sin (2 * aT) / m.cL
      = m.cT * m.cT / (m.cL * m.cL) * (cos aT * sin (2 * aL)) / m.cT := by
    rw [div_eq_div_iff hcl hct]; linear_combination snell_two_mul m aL aT hcl hsnell
  linear_combination (2 * m.rhoF * m.cF / (m.rhoS * cos aF * nfs (cTrig asin) m aF aL aT)) * h

/-- Stokes relation, mode-converted reflections: `R_TL` (T incident, L reflected) and `R_LT`
(L incident, T reflected) satisfy `c_T cos α_L · R_TL = − c_L cos α_T · R_LT`. -/
theorem stokes_refl (hcl : m.cL ≠ 0)
    (hsnell : m.cL * sin aT = m.cT * sin aL) :
    m.cT * cos aL * (solidTFluid (cTrig asin) m aF aL aT).1 =
      -(m.cL * cos aT * (solidLFluid (cTrig asin) m aF aL aT).2.1) := by
  rw [solidTFluid_cTrig, solidLFluid_cTrig]
  simp only
  rw [sin_four_mul]
  linear_combination (-(2 * cos (2 * aT) / nfs (cTrig asin) m aF aL aT))
    * snell_two_mul m aL aT hcl hsnell

theorem nfs_normal (hρs : m.rhoS ≠ 0) (hcl : m.cL ≠ 0) :
    nfs (cTrig asin) m 0 0 0 = (m.rhoS * m.cL + m.rhoF * m.cF) / (m.rhoS * m.cL) := by
  rw [nfs_cTrig]
  simp only [mul_zero, Complex.sin_zero, Complex.cos_zero, mul_one, div_one, zero_add]
  exact one_add_div (mul_ne_zero hρs hcl)

/-- normal incidence from the fluid: `R = (Z_s − Z_f)/(Z_s + Z_f)`, `T_L = 2 Z_s/(Z_s + Z_f)`,
`T_T = 0` with `Z_s = ρ_s c_L`, `Z_f = ρ_f c_f` -/
theorem fluidSolid_normal (hρs : m.rhoS ≠ 0) (hcl : m.cL ≠ 0) :
    fluidSolid (cTrig asin) m 0 0 0 =
      ((m.rhoS * m.cL - m.rhoF * m.cF) / (m.rhoS * m.cL + m.rhoF * m.cF),
       2 * (m.rhoS * m.cL) / (m.rhoS * m.cL + m.rhoF * m.cF), 0) := by
  have hs := mul_ne_zero hρs hcl
  rw [fluidSolid_cTrig, nfs_normal asin m hρs hcl]
  simp only [mul_zero, Complex.sin_zero, Complex.cos_zero, mul_one, div_one, zero_add, zero_mul,
    zero_div, div_div_eq_mul_div, sub_mul, one_mul, div_mul_cancel₀ _ hs]

/-- normal incidence of an L wave from the solid: `R_L = (Z_f − Z_s)/(Z_s + Z_f)`, `R_T = 0`,
`T = 2 Z_f/(Z_s + Z_f)` -/
theorem solidLFluid_normal (hρs : m.rhoS ≠ 0) (hcl : m.cL ≠ 0) :
    solidLFluid (cTrig asin) m 0 0 0 =
      ((m.rhoF * m.cF - m.rhoS * m.cL) / (m.rhoS * m.cL + m.rhoF * m.cF), 0,
       2 * (m.rhoF * m.cF) / (m.rhoS * m.cL + m.rhoF * m.cF)) := by
  have hs := mul_ne_zero hρs hcl
  rw [solidLFluid_cTrig, nfs_normal asin m hρs hcl]
  simp only [mul_zero, Complex.sin_zero, Complex.cos_zero, mul_one, div_one, zero_sub, zero_mul,
    zero_div, div_div_eq_mul_div, neg_add_eq_sub, sub_mul, one_mul, div_mul_cancel₀ _ hs, mul_assoc]

/-- normal incidence of a T wave from the solid: total reflection with sign change,
`R_L = 0`, `R_T = −1`, `T = 0` -/
theorem solidTFluid_normal (hρs : m.rhoS ≠ 0) (hcl : m.cL ≠ 0)
    (hZ : m.rhoS * m.cL + m.rhoF * m.cF ≠ 0) :
    solidTFluid (cTrig asin) m 0 0 0 = (0, -1, 0) := by
  have hs := mul_ne_zero hρs hcl
  rw [solidTFluid_cTrig, nfs_normal asin m hρs hcl]
  simp only [mul_zero, Complex.sin_zero, Complex.cos_zero, mul_one, div_one, zero_sub, zero_mul,
    zero_div, neg_zero, div_div_eq_mul_div, ← neg_add', neg_mul, add_mul, one_mul,
    div_mul_cancel₀ _ hs, neg_div, div_self hZ]

theorem transmissionAt_normal_L (hρs : m.rhoS ≠ 0) (hcl : m.cL ≠ 0) (h0 : asin 0 = 0) :
    transmissionAt (cTrig asin) m .fluidSolid .L .L 0 false =
      .ok (2 * (m.rhoS * m.cL) / (m.rhoS * m.cL + m.rhoF * m.cF)) := by
  rw [transmission_fluid_solid]
  simp only [snell_cTrig, Complex.sin_zero, mul_zero, h0, fluidSolid_normal asin m hρs hcl,
    withUnits_false, pickTrans]

theorem reflectionAt_normal (hρs : m.rhoS ≠ 0) (hcl : m.cL ≠ 0) (h0 : asin 0 = 0)
    (mi mo : Mode) :
    reflectionAt (cTrig asin) m .fluidSolid mi mo 0 false =
      .ok ((m.rhoS * m.cL - m.rhoF * m.cF) / (m.rhoS * m.cL + m.rhoF * m.cF)) := by
  rw [reflection_fluid_solid]
  simp only [snell_cTrig, Complex.sin_zero, mul_zero, h0, fluidSolid_normal asin m hρs hcl,
    withUnits_false]

/-- the refracted angle returned by `snell` satisfies Snell's law as soon as the external
arcsine is a right inverse of `sin` at the argument used -/
theorem snell_sin (a cInc cRef : ℂ) (hc : cInc ≠ 0)
    (h : sin (asin (cRef / cInc * sin a)) = cRef / cInc * sin a) :
    cInc * sin (snell (cTrig asin) a cInc cRef) = cRef * sin a := by
  rw [snell_cTrig, h, ← mul_assoc, mul_div_cancel₀ _ hc]

/-- the two refracted angles computed from one incidence angle satisfy Snell's law between
themselves -/
theorem snell_pair (a c0 c1 c2 : ℂ) (hc : c0 ≠ 0)
    (h1 : sin (asin (c1 / c0 * sin a)) = c1 / c0 * sin a)
    (h2 : sin (asin (c2 / c0 * sin a)) = c2 / c0 * sin a) :
    c1 * sin (snell (cTrig asin) a c0 c2) = c2 * sin (snell (cTrig asin) a c0 c1) := by
  rw [snell_cTrig, snell_cTrig, h1, h2]; ring

/-! Energy conservation (normal energy flux), all regimes at once.

`|·|²` is `Complex.normSq`. The sines of the angles are real (real incidence angle and Snell's
law), the cosine of the INCIDENT angle is real (propagating incident wave); the cosines of the
two other angles are whatever complex numbers `Complex.cos` returns: real below the critical
angles, purely imaginary (of either sign) beyond. No sign/branch condition on the imaginary
parts is needed: an evanescent wave enters the balance through `Re (cos α) = 0`.

Each proof brings `N` and the coefficients to the form of `IfaceLemmas.flux_balance` (`N = P + Q`,
reflection numerator `P − Q`, real factors folded into one cast, `c_T²/c_L²` on the impedances) and
supplies the numerator identity of its incident wave (`flux_fs`, `flux_slf`, `flux_stf`). -/

/-- Energy conservation, fluid → solid:
`cos α_F/(ρ_f c_f) · (1 − |R|²) = Re cos α_L/(ρ_s c_L) · |T_L|² + Re cos α_T/(ρ_s c_T) · |T_T|²`. -/
theorem energy_fluid_solid (ρf ρs cf cl ct Cf Sl St : ℝ) (aF aL aT : ℂ)
    (hCf : cos aF = Cf) (hSl : sin aL = Sl) (hSt : sin aT = St)
    (hCf0 : Cf ≠ 0) (hρf : ρf ≠ 0) (hρs : ρs ≠ 0) (hcf : cf ≠ 0) (hcl : cl ≠ 0)
    (hsnell : cl * St = ct * Sl)
    (hN : nfs (cTrig asin) (mediaR ρf ρs cf cl ct) aF aL aT ≠ 0) :
    Cf / (ρf * cf) * (1 - normSq (fluidSolid (cTrig asin) (mediaR ρf ρs cf cl ct) aF aL aT).1)
      = (cos aL).re / (ρs * cl)
          * normSq (fluidSolid (cTrig asin) (mediaR ρf ρs cf cl ct) aF aL aT).2.1
        + (cos aT).re / (ρs * ct)
          * normSq (fluidSolid (cTrig asin) (mediaR ρf ρs cf cl ct) aF aL aT).2.2 := by
  have hNdef := nfs_cTrig asin (mediaR ρf ρs cf cl ct) aF aL aT
  rw [fluidSolid_cTrig]
  generalize nfs (cTrig asin) (mediaR ρf ρs cf cl ct) aF aL aT = N at hN hNdef ⊢
  -- `N = P + Q` as `nfs_cTrig` brackets it: `P` = shear term + `cos² 2α_T`, `Q` = fluid term
  simp only [mediaR, Complex.sin_two_mul, cos_two_mul_of_sin hSt, hCf, hSl, hSt,
    ← ofReal_mul, ← ofReal_div, IfaceLemmas.kappa_impedance hρs cl ct] at hNdef ⊢
  exact IfaceLemmas.flux_balance hN hNdef (IfaceLemmas.flux_fs _ _ _ _ _ _ _ _ _ hCf0
    (mul_ne_zero hρf hcf) (mul_ne_zero hρs hcl) (IfaceLemmas.snell_impedance hsnell))

/-- Total reflection: beyond both critical angles (both refracted cosines have zero real part)
the fluid-side reflection coefficient has modulus one. -/
theorem total_reflection_fluid_solid (ρf ρs cf cl ct Cf Sl St : ℝ) (aF aL aT : ℂ)
    (hCf : cos aF = Cf) (hSl : sin aL = Sl) (hSt : sin aT = St)
    (hCf0 : Cf ≠ 0) (hρf : ρf ≠ 0) (hρs : ρs ≠ 0) (hcf : cf ≠ 0) (hcl : cl ≠ 0)
    (hsnell : cl * St = ct * Sl)
    (hN : nfs (cTrig asin) (mediaR ρf ρs cf cl ct) aF aL aT ≠ 0)
    (hevL : (cos aL).re = 0) (hevT : (cos aT).re = 0) :
    normSq (fluidSolid (cTrig asin) (mediaR ρf ρs cf cl ct) aF aL aT).1 = 1 := by
  have h := energy_fluid_solid asin ρf ρs cf cl ct Cf Sl St aF aL aT hCf hSl hSt hCf0 hρf hρs hcf
    hcl hsnell hN
  rw [hevL, hevT, zero_div, zero_div, zero_mul, zero_mul, add_zero] at h
  exact (sub_eq_zero.1 ((mul_eq_zero.1 h).resolve_left
    (div_ne_zero hCf0 (mul_ne_zero hρf hcf)))).symm

/-- Energy conservation, solid → fluid, incident L wave:
`cos α_L/(ρ_s c_L) · (1 − |R_L|²) = Re cos α_T/(ρ_s c_T) · |R_T|² + Re cos α_F/(ρ_f c_f) · |T|²`. -/
theorem energy_solid_l_fluid (ρf ρs cf cl ct Cl Sl St : ℝ) (aF aL aT : ℂ)
    (hCl : cos aL = Cl) (hSl : sin aL = Sl) (hSt : sin aT = St)
    (hCf0 : cos aF ≠ 0) (hρs : ρs ≠ 0) (hcl : cl ≠ 0)
    (hsnell : cl * St = ct * Sl)
    (hN : nfs (cTrig asin) (mediaR ρf ρs cf cl ct) aF aL aT ≠ 0) :
    Cl / (ρs * cl) * (1 - normSq (solidLFluid (cTrig asin) (mediaR ρf ρs cf cl ct) aF aL aT).1)
      = (cos aT).re / (ρs * ct)
          * normSq (solidLFluid (cTrig asin) (mediaR ρf ρs cf cl ct) aF aL aT).2.1
        + (cos aF).re / (ρf * cf)
          * normSq (solidLFluid (cTrig asin) (mediaR ρf ρs cf cl ct) aF aL aT).2.2 := by
  have hNdef := nfs_cTrig asin (mediaR ρf ρs cf cl ct) aF aL aT
  rw [solidLFluid_cTrig]
  generalize nfs (cTrig asin) (mediaR ρf ρs cf cl ct) aF aL aT = N at hN hNdef ⊢
  -- `N = P + Q` with `P` = shear term + fluid term, `Q = cos² 2α_T`: regroup `N` and the numerator `P − Q` of `R_L`
  rw [add_right_comm] at hNdef
  rw [sub_add_eq_add_sub]
  simp only [mediaR, Complex.sin_two_mul, cos_two_mul_of_sin hSt, hCl, hSl, hSt,
    ← ofReal_mul, ← ofReal_div, IfaceLemmas.kappa_impedance hρs cl ct] at hNdef ⊢
  exact IfaceLemmas.flux_balance hN hNdef (IfaceLemmas.flux_slf _ _ _ _ _ _ _ _ _ hCf0
    (mul_ne_zero hρs hcl) (IfaceLemmas.snell_impedance hsnell))

/-- Energy conservation, solid → fluid, incident T wave:
`cos α_T/(ρ_s c_T) · (1 − |R_T|²) = Re cos α_L/(ρ_s c_L) · |R_L|² + Re cos α_F/(ρ_f c_f) · |T|²`. -/
theorem energy_solid_t_fluid (ρf ρs cf cl ct Ct Sl St : ℝ) (aF aL aT : ℂ)
    (hCt : cos aT = Ct) (hSl : sin aL = Sl) (hSt : sin aT = St)
    (hCf0 : cos aF ≠ 0) (hρs : ρs ≠ 0) (hcl : cl ≠ 0)
    (hsnell : cl * St = ct * Sl)
    (hN : nfs (cTrig asin) (mediaR ρf ρs cf cl ct) aF aL aT ≠ 0) :
    Ct / (ρs * ct) * (1 - normSq (solidTFluid (cTrig asin) (mediaR ρf ρs cf cl ct) aF aL aT).2.1)
      = (cos aL).re / (ρs * cl)
          * normSq (solidTFluid (cTrig asin) (mediaR ρf ρs cf cl ct) aF aL aT).1
        + (cos aF).re / (ρf * cf)
          * normSq (solidTFluid (cTrig asin) (mediaR ρf ρs cf cl ct) aF aL aT).2.2 := by
  have hNdef := nfs_cTrig asin (mediaR ρf ρs cf cl ct) aF aL aT
  rw [solidTFluid_cTrig]
  generalize nfs (cTrig asin) (mediaR ρf ρs cf cl ct) aF aL aT = N at hN hNdef ⊢
  -- `N = P + Q` with `P` = shear term, `Q = cos² 2α_T` + fluid term: regroup `N` and the numerator `P − Q` of `R_T`
  rw [add_assoc] at hNdef
  rw [sub_sub]
  simp only [mediaR, sin_four_mul, Complex.sin_two_mul, cos_two_mul_of_sin hSt, hCt, hSl, hSt,
    ← ofReal_mul, ← ofReal_div, IfaceLemmas.kappa_impedance hρs cl ct] at hNdef ⊢
  exact IfaceLemmas.flux_balance hN hNdef (IfaceLemmas.flux_stf _ _ _ _ _ _ _ _ _ hCf0
    (mul_ne_zero hρs hcl) (IfaceLemmas.snell_impedance hsnell))

/-- fluid → solid at the angles `snell` computes from a real incidence angle -/
theorem energy_fluid_solid_snell (ρf ρs cf cl ct θ : ℝ)
    (hL : sin (asin ((cl : ℂ) / cf * sin (θ : ℂ))) = (cl : ℂ) / cf * sin (θ : ℂ))
    (hT : sin (asin ((ct : ℂ) / cf * sin (θ : ℂ))) = (ct : ℂ) / cf * sin (θ : ℂ))
    (hcos : Real.cos θ ≠ 0) (hρf : ρf ≠ 0) (hρs : ρs ≠ 0) (hcf : cf ≠ 0) (hcl : cl ≠ 0)
    (hN : nfs (cTrig asin) (mediaR ρf ρs cf cl ct) θ
      (snell (cTrig asin) θ cf cl) (snell (cTrig asin) θ cf ct) ≠ 0) :
    Real.cos θ / (ρf * cf) * (1 - normSq (fluidSolid (cTrig asin) (mediaR ρf ρs cf cl ct) θ
        (snell (cTrig asin) θ cf cl) (snell (cTrig asin) θ cf ct)).1)
      = (cos (snell (cTrig asin) θ cf cl)).re / (ρs * cl)
          * normSq (fluidSolid (cTrig asin) (mediaR ρf ρs cf cl ct) θ
              (snell (cTrig asin) θ cf cl) (snell (cTrig asin) θ cf ct)).2.1
        + (cos (snell (cTrig asin) θ cf ct)).re / (ρs * ct)
          * normSq (fluidSolid (cTrig asin) (mediaR ρf ρs cf cl ct) θ
              (snell (cTrig asin) θ cf cl) (snell (cTrig asin) θ cf ct)).2.2 := by
  refine energy_fluid_solid asin ρf ρs cf cl ct (Real.cos θ) (cl / cf * Real.sin θ)
    (ct / cf * Real.sin θ) _ _ _ (Complex.ofReal_cos θ).symm (sin_snell_ofReal asin cf cl θ hL)
    (sin_snell_ofReal asin cf ct θ hT) hcos hρf hρs hcf hcl ?_ hN
  ring

/-- the values returned by `reflectionAt` and `transmissionAt` (fluid → solid, stress units, real
incidence angle) satisfy the energy balance -/
theorem energy_helpers_fluid_solid (ρf ρs cf cl ct θ : ℝ)
    (hL : sin (asin ((cl : ℂ) / cf * sin (θ : ℂ))) = (cl : ℂ) / cf * sin (θ : ℂ))
    (hT : sin (asin ((ct : ℂ) / cf * sin (θ : ℂ))) = (ct : ℂ) / cf * sin (θ : ℂ))
    (hcos : Real.cos θ ≠ 0) (hρf : ρf ≠ 0) (hρs : ρs ≠ 0) (hcf : cf ≠ 0) (hcl : cl ≠ 0)
    (hN : nfs (cTrig asin) (mediaR ρf ρs cf cl ct) θ
      (snell (cTrig asin) θ cf cl) (snell (cTrig asin) θ cf ct) ≠ 0) :
    ∃ R TL TT : ℂ,
      reflectionAt (cTrig asin) (mediaR ρf ρs cf cl ct) .fluidSolid .L .L θ false = .ok R ∧
      transmissionAt (cTrig asin) (mediaR ρf ρs cf cl ct) .fluidSolid .L .L θ false = .ok TL ∧
      transmissionAt (cTrig asin) (mediaR ρf ρs cf cl ct) .fluidSolid .L .T θ false = .ok TT ∧
      Real.cos θ / (ρf * cf) * (1 - normSq R)
        = (cos (snell (cTrig asin) θ cf cl)).re / (ρs * cl) * normSq TL
          + (cos (snell (cTrig asin) θ cf ct)).re / (ρs * ct) * normSq TT :=
  ⟨_, _, _, reflection_fluid_solid _ _ _ _ _ _, transmission_fluid_solid _ _ _ _ _,
    transmission_fluid_solid _ _ _ _ _,
    energy_fluid_solid_snell asin ρf ρs cf cl ct θ hL hT hcos hρf hρs hcf hcl hN⟩

/-- solid → fluid, incident L wave, at the angles `snell` computes from a real incidence angle -/
theorem energy_solid_l_fluid_snell (ρf ρs cf cl ct θ : ℝ)
    (hT : sin (asin ((ct : ℂ) / cl * sin (θ : ℂ))) = (ct : ℂ) / cl * sin (θ : ℂ))
    (hcosF : cos (snell (cTrig asin) θ cl cf) ≠ 0) (hρs : ρs ≠ 0) (hcl : cl ≠ 0)
    (hN : nfs (cTrig asin) (mediaR ρf ρs cf cl ct)
      (snell (cTrig asin) θ cl cf) θ (snell (cTrig asin) θ cl ct) ≠ 0) :
    Real.cos θ / (ρs * cl) * (1 - normSq (solidFluidAt (cTrig asin) (mediaR ρf ρs cf cl ct) .L θ).1)
      = (cos (snell (cTrig asin) θ cl ct)).re / (ρs * ct)
          * normSq (solidFluidAt (cTrig asin) (mediaR ρf ρs cf cl ct) .L θ).2.1
        + (cos (snell (cTrig asin) θ cl cf)).re / (ρf * cf)
          * normSq (solidFluidAt (cTrig asin) (mediaR ρf ρs cf cl ct) .L θ).2.2 := by
  refine energy_solid_l_fluid asin ρf ρs cf cl ct (Real.cos θ) (Real.sin θ)
    (ct / cl * Real.sin θ) _ _ _ (Complex.ofReal_cos θ).symm (Complex.ofReal_sin θ).symm
    (sin_snell_ofReal asin cl ct θ hT) hcosF hρs hcl ?_ hN
  rw [← mul_assoc, mul_div_cancel₀ _ hcl]

/-- solid → fluid, incident T wave, at the angles `snell` computes from a real incidence angle -/
theorem energy_solid_t_fluid_snell (ρf ρs cf cl ct θ : ℝ)
    (hL : sin (asin ((cl : ℂ) / ct * sin (θ : ℂ))) = (cl : ℂ) / ct * sin (θ : ℂ))
    (hcosF : cos (snell (cTrig asin) θ ct cf) ≠ 0) (hρs : ρs ≠ 0) (hcl : cl ≠ 0) (hct : ct ≠ 0)
    (hN : nfs (cTrig asin) (mediaR ρf ρs cf cl ct)
      (snell (cTrig asin) θ ct cf) (snell (cTrig asin) θ ct cl) θ ≠ 0) :
    Real.cos θ / (ρs * ct)
        * (1 - normSq (solidFluidAt (cTrig asin) (mediaR ρf ρs cf cl ct) .T θ).2.1)
      = (cos (snell (cTrig asin) θ ct cl)).re / (ρs * cl)
          * normSq (solidFluidAt (cTrig asin) (mediaR ρf ρs cf cl ct) .T θ).1
        + (cos (snell (cTrig asin) θ ct cf)).re / (ρf * cf)
          * normSq (solidFluidAt (cTrig asin) (mediaR ρf ρs cf cl ct) .T θ).2.2 := by
  refine energy_solid_t_fluid asin ρf ρs cf cl ct (Real.cos θ) (cl / ct * Real.sin θ)
    (Real.sin θ) _ _ _ (Complex.ofReal_cos θ).symm (sin_snell_ofReal asin ct cl θ hL)
    (Complex.ofReal_sin θ).symm hcosF hρs hcl ?_ hN
  rw [← mul_assoc, mul_div_cancel₀ _ hct]

end Cplx

noncomputable section RealSnell

/-- the real `CTrig` (real sine, cosine and arcsine), used for the theorems on real angles of this section -/
def rTrig : CTrig ℝ :=
  { sin := Real.sin, cos := Real.cos, asin := Real.arcsin, ofNat := fun n => (n : ℝ) }

/-- below the critical angle (`|c₂/c₁ · sin a| ≤ 1`) the refracted angle satisfies Snell's law -/
theorem snell_real (a c1 c2 : ℝ) (hc : c1 ≠ 0) (hle : |c2 / c1 * Real.sin a| ≤ 1) :
    c1 * Real.sin (snell rTrig a c1 c2) = c2 * Real.sin a := by
  have h := abs_le.mp hle
  change c1 * Real.sin (Real.arcsin (c2 / c1 * Real.sin a)) = c2 * Real.sin a
  rw [Real.sin_arcsin h.1 h.2, ← mul_assoc, mul_div_cancel₀ _ hc]

theorem snell_real_range (a c1 c2 : ℝ) :
    snell rTrig a c1 c2 ∈ Set.Icc (-(Real.pi / 2)) (Real.pi / 2) :=
  Real.arcsin_mem_Icc _

/-- beyond the critical angle the REAL arcsine saturates at `π/2` (so Snell's law fails over `ℝ`:
the complex instance is needed there) -/
theorem snell_real_saturates (a c1 c2 : ℝ) (h : 1 ≤ c2 / c1 * Real.sin a) :
    snell rTrig a c1 c2 = Real.pi / 2 :=
  Real.arcsin_of_one_le h

end RealSnell

/-! ## Non-vacuity: concrete instances -/
noncomputable section Examples
open Complex

/-- water / aluminium at normal incidence -/
example (asin : ℂ → ℂ) :
    fluidSolid (cTrig asin) (mediaR 1000 2700 1480 6320 3130) 0 0 0
      = (974 / 1159, 2133 / 1159, 0) := by
  rw [fluidSolid_normal asin _ (by norm_num [mediaR]) (by norm_num [mediaR])]
  norm_num [mediaR]

example (asin : ℂ → ℂ) :
    solidLFluid (cTrig asin) (mediaR 1000 2700 1480 6320 3130) 0 0 0
      = (-974 / 1159, 0, 185 / 1159) := by
  rw [solidLFluid_normal asin _ (by norm_num [mediaR]) (by norm_num [mediaR])]
  norm_num [mediaR]

example (asin : ℂ → ℂ) :
    solidTFluid (cTrig asin) (mediaR 1000 2700 1480 6320 3130) 0 0 0 = (0, -1, 0) :=
  solidTFluid_normal asin _ (by norm_num [mediaR]) (by norm_num [mediaR]) (by norm_num [mediaR])

example (asin : ℂ → ℂ) (h0 : asin 0 = 0) :
    transmissionAt (cTrig asin) (mediaR 1000 2700 1480 6320 3130) .fluidSolid .L .L 0 false
      = .ok (2133 / 1159) := by
  rw [transmissionAt_normal_L asin _ (by norm_num [mediaR]) (by norm_num [mediaR]) h0]
  norm_num [mediaR]

/-- Snell over `ℝ`: `c₁ = 1`, `c₂ = 2`, `a = π/6` refracts to `π/2` -/
example : (1 : ℝ) * Real.sin (snell rTrig (Real.pi / 6) 1 2) = 2 * Real.sin (Real.pi / 6) :=
  snell_real _ 1 2 one_ne_zero (by rw [Real.sin_pi_div_six]; norm_num)

/-! An evanescent configuration with rational data: `c_f = c_T = 9`, `c_L = 25`,
`sin α_F = sin α_T = 3/5`, `sin α_L = 5/3 > 1`, realised by `α_L = π/2 + i·log 3`, for which
`cos α_L = −(4/3) i` (negative imaginary part, as with NumPy's principal arcsine). -/

theorem sin_evanescent : sin ((Real.pi / 2 : ℝ) + (Real.log 3 : ℝ) * I) = ((5 / 3 : ℝ) : ℂ) := by
  rw [Complex.sin_add, Complex.cos_mul_I, Complex.sin_mul_I, ← Complex.ofReal_sin,
    ← Complex.ofReal_cos, Real.sin_pi_div_two, Real.cos_pi_div_two, ← Complex.ofReal_cosh,
    Real.cosh_log (by norm_num)]
  norm_num

theorem cos_evanescent : cos ((Real.pi / 2 : ℝ) + (Real.log 3 : ℝ) * I) = -(4 / 3) * I := by
  rw [Complex.cos_add, Complex.cos_mul_I, Complex.sin_mul_I, ← Complex.ofReal_sin,
    ← Complex.ofReal_cos, Real.sin_pi_div_two, Real.cos_pi_div_two, ← Complex.ofReal_sinh,
    Real.sinh_log (by norm_num)]
  norm_num

theorem sin_arcsin_three_fifths : sin ((Real.arcsin (3 / 5) : ℝ) : ℂ) = ((3 / 5 : ℝ) : ℂ) := by
  rw [← Complex.ofReal_sin, Real.sin_arcsin (by norm_num) (by norm_num)]

theorem cos_arcsin_three_fifths : cos ((Real.arcsin (3 / 5) : ℝ) : ℂ) = ((4 / 5 : ℝ) : ℂ) := by
  rw [← Complex.ofReal_cos, Real.cos_arcsin, show (1 : ℝ) - (3 / 5) ^ 2 = (4 / 5) ^ 2 by norm_num,
    Real.sqrt_sq (by norm_num)]

theorem nfs_evanescent_ne (asin : ℂ → ℂ) :
    nfs (cTrig asin) (mediaR 1 3 9 25 9) ((Real.arcsin (3 / 5) : ℝ) : ℂ)
      ((Real.pi / 2 : ℝ) + (Real.log 3 : ℝ) * I) ((Real.arcsin (3 / 5) : ℝ) : ℂ) ≠ 0 := by
  -- the shear and the fluid term are imaginary here, `cos² 2α_T = 49/625` is not
  suffices h : ∀ z : ℂ, z = ((49 / 625 : ℝ) : ℂ) + ((-(2353 / 3125) : ℝ) : ℂ) * I → z ≠ 0 by
    refine h _ ?_
    rw [nfs_cTrig, Complex.sin_two_mul, Complex.sin_two_mul, cos_two_mul_sin, sin_evanescent,
      cos_evanescent, sin_arcsin_three_fifths, cos_arcsin_three_fifths]
    simp only [mediaR]
    push_cast
    ring
  rintro z rfl h
  have := congrArg Complex.re h
  rw [add_re, re_ofReal_mul, I_re, mul_zero, add_zero, ofReal_re, zero_re] at this
  norm_num at this

/-- all hypotheses of `energy_fluid_solid` hold in the evanescent configuration; the L wave
carries no flux (`Re cos α_L = 0`, `Im cos α_L < 0`) and the balance is between `R` and `T_T` -/
example (asin : ℂ → ℂ) :
    let aF : ℂ := (Real.arcsin (3 / 5) : ℝ)
    let aL : ℂ := (Real.pi / 2 : ℝ) + (Real.log 3 : ℝ) * I
    (cos aL).re = 0 ∧ (cos aL).im < 0 ∧
    (4 / 5 : ℝ) / (1 * 9) * (1 - normSq (fluidSolid (cTrig asin) (mediaR 1 3 9 25 9) aF aL aF).1)
      = (4 / 5 : ℝ) / (3 * 9) * normSq (fluidSolid (cTrig asin) (mediaR 1 3 9 25 9) aF aL aF).2.2 := by
  intro aF aL
  have h := energy_fluid_solid asin 1 3 9 25 9 (4 / 5) (5 / 3) (3 / 5) aF aL aF
    cos_arcsin_three_fifths sin_evanescent sin_arcsin_three_fifths
    (by norm_num) (by norm_num) (by norm_num) (by norm_num) (by norm_num) (by norm_num)
    (nfs_evanescent_ne asin)
  have hre : (cos aL).re = 0 := by rw [cos_evanescent]; simp
  refine ⟨hre, by rw [cos_evanescent]; norm_num, ?_⟩
  rw [hre, cos_arcsin_three_fifths, Complex.ofReal_re] at h
  rw [h]; ring

/-- the hypotheses of `stokes_T` / `stokes_refl` hold in the same configuration -/
example (asin : ℂ → ℂ) :=
  stokes_refl asin (mediaR 1 3 9 25 9) ((Real.arcsin (3 / 5) : ℝ) : ℂ)
    ((Real.pi / 2 : ℝ) + (Real.log 3 : ℝ) * I) ((Real.arcsin (3 / 5) : ℝ) : ℂ)
    (by norm_num [mediaR])
    (by rw [sin_evanescent, sin_arcsin_three_fifths]; norm_num [mediaR])

end Examples


/-! The same statements about the code as translated on this run.

`Arim.Src.*` (file `Generated/SrcC04.lean`) is the translation of `fluid_solid`, `solid_l_fluid`, `solid_t_fluid`,
`_fluid_solid_n`, `snell_angles` and of `transmission_at_interface`, `reflection_at_interface` specialised to each
supported (interface kind, incident mode, outgoing mode, unit), made from `/repo/src/arim/model.py` by
`harness/py2lean.py` on every run; the tie theorems of `Tie/C04.lean` identify them with the model, so the laws above
are laws of the translated source. -/
noncomputable section OnSource
open Complex Arim.Tie.C04

/-- the numerical routines at `K = ℂ`: `sin`, `cos` are the complex functions, `arcsin` an external routine -/
def srcOps (asin : ℂ → ℂ) : Src.Ops ℂ :=
  { sin := Complex.sin, cos := Complex.cos, asin := asin, sqrt := id, exp := Complex.exp, sinc := id,
    pi := (Real.pi : ℂ), ofNat := fun n => (n : ℂ), ofInt := fun z => (z : ℂ),
    floor := fun _ => 0, round := fun _ => 0, trunc := fun _ => 0 }

theorem ctrig_srcOps (asin : ℂ → ℂ) : ctrig (srcOps asin) = cTrig asin := rfl

/-- Stokes relation (L) for the translated `solid_l_fluid` / `fluid_solid` -/
theorem src_stokes_L (asin : ℂ → ℂ) (ρf ρs cf cl ct aF aL aT : ℂ) :
    (Src.solid_l_fluid (srcOps asin) aL ρf ρs cf cl ct aF aT).2.2 =
      ρf * cf * cos aL / (ρs * cl * cos aF) * (Src.fluid_solid (srcOps asin) aF ρf ρs cf cl ct aL aT).2.1 := by
  rw [tie_solid_l_fluid, tie_fluid_solid, ctrig_srcOps]
  exact stokes_L asin (media ρf ρs cf cl ct) aF aL aT

/-- Stokes relation (T) for the translated `solid_t_fluid` / `fluid_solid` -/
theorem src_stokes_T (asin : ℂ → ℂ) (ρf ρs cf cl ct aF aL aT : ℂ) (hcl : cl ≠ 0) (hct : ct ≠ 0)
    (hsnell : cl * sin aT = ct * sin aL) :
    (Src.solid_t_fluid (srcOps asin) aT ρf ρs cf cl ct aF aL).2.2 =
      -(ρf * cf * cos aT / (ρs * ct * cos aF)) * (Src.fluid_solid (srcOps asin) aF ρf ρs cf cl ct aL aT).2.2 := by
  rw [tie_solid_t_fluid, tie_fluid_solid, ctrig_srcOps]
  exact stokes_T asin (media ρf ρs cf cl ct) aF aL aT hcl hct hsnell

/-- mode-converted reflections of the translated `solid_t_fluid` / `solid_l_fluid` -/
theorem src_stokes_refl (asin : ℂ → ℂ) (ρf ρs cf cl ct aF aL aT : ℂ) (hcl : cl ≠ 0)
    (hsnell : cl * sin aT = ct * sin aL) :
    ct * cos aL * (Src.solid_t_fluid (srcOps asin) aT ρf ρs cf cl ct aF aL).1 =
      -(cl * cos aT * (Src.solid_l_fluid (srcOps asin) aL ρf ρs cf cl ct aF aT).2.1) := by
  rw [tie_solid_t_fluid, tie_solid_l_fluid, ctrig_srcOps]
  exact stokes_refl asin (media ρf ρs cf cl ct) aF aL aT hcl hsnell

/-- energy conservation of the translated `fluid_solid` called with a real incidence angle and no refracted
angles (the code then refracts by its own `snell_angles`): all regimes, complex refracted angles included -/
theorem src_energy_fluid_solid (asin : ℂ → ℂ) (ρf ρs cf cl ct θ : ℝ)
    (hL : sin (asin ((cl : ℂ) / cf * sin (θ : ℂ))) = (cl : ℂ) / cf * sin (θ : ℂ))
    (hT : sin (asin ((ct : ℂ) / cf * sin (θ : ℂ))) = (ct : ℂ) / cf * sin (θ : ℂ))
    (hcos : Real.cos θ ≠ 0) (hρf : ρf ≠ 0) (hρs : ρs ≠ 0) (hcf : cf ≠ 0) (hcl : cl ≠ 0)
    (hN : Src.fluid_solid_n (srcOps asin) θ (Src.snell_angles (srcOps asin) θ cf cl)
      (Src.snell_angles (srcOps asin) θ cf ct) ρf ρs cf cl ct ≠ 0) :
    Real.cos θ / (ρf * cf) * (1 - normSq (Src.fluid_solid_auto (srcOps asin) θ ρf ρs cf cl ct).1)
      = (cos (Src.snell_angles (srcOps asin) θ cf cl)).re / (ρs * cl)
          * normSq (Src.fluid_solid_auto (srcOps asin) θ ρf ρs cf cl ct).2.1
        + (cos (Src.snell_angles (srcOps asin) θ cf ct)).re / (ρs * ct)
          * normSq (Src.fluid_solid_auto (srcOps asin) θ ρf ρs cf cl ct).2.2 := by
  rw [tie_fluid_solid_auto, ctrig_srcOps]
  rw [tie_fluid_solid_n, tie_snell_angles, tie_snell_angles, ctrig_srcOps] at hN
  rw [tie_snell_angles, tie_snell_angles, ctrig_srcOps]
  exact energy_fluid_solid_snell asin ρf ρs cf cl ct θ hL hT hcos hρf hρs hcf hcl hN

/-- the refracted angle of the translated `snell_angles` satisfies Snell's law wherever `sin ∘ arcsin = id` -/
theorem src_snell_sin (asin : ℂ → ℂ) (a cInc cRef : ℂ) (hc : cInc ≠ 0)
    (hasin : sin (asin (cRef / cInc * sin a)) = cRef / cInc * sin a) :
    cInc * sin (Src.snell_angles (srcOps asin) a cInc cRef) = cRef * sin a := by
  rw [tie_snell_angles, ctrig_srcOps]
  exact snell_sin asin a cInc cRef hc hasin

/-- the translated helpers return the coefficient of the requested modes: fluid → solid transmission into `L` / `T` is the
second / third output of the translated `fluid_solid` at the Snell angles of the incident angle -/
theorem src_transmission_selects {K : Type} [Add K] [Sub K] [Mul K] [Div K] [Neg K] (o : Src.Ops K) (a rf rs cf cl ct : K) :
    Src.transmission_at_interface__fluid_solid_LL_stress o a rf rs cf cl ct
        = (Src.fluid_solid o a rf rs cf cl ct (Src.snell_angles o a cf cl) (Src.snell_angles o a cf ct)).2.1 ∧
    Src.transmission_at_interface__fluid_solid_LT_stress o a rf rs cf cl ct
        = (Src.fluid_solid o a rf rs cf cl ct (Src.snell_angles o a cf cl) (Src.snell_angles o a cf ct)).2.2 ∧
    Src.transmission_at_interface__solid_fluid_LL_stress o a rf rs cf cl ct = (Src.solid_l_fluid_auto o a rf rs cf cl ct).2.2 ∧
    Src.transmission_at_interface__solid_fluid_TL_stress o a rf rs cf cl ct = (Src.solid_t_fluid_auto o a rf rs cf cl ct).2.2 :=
  ⟨rfl, rfl, rfl, rfl⟩

/-- reflections: `R_L` / `R_T` of the translated `solid_l_fluid` (`solid_t_fluid`) for an incident L (T) wave; the
reflection seen from the fluid is the first output of `fluid_solid` -/
theorem src_reflection_selects {K : Type} [Add K] [Sub K] [Mul K] [Div K] [Neg K] (o : Src.Ops K) (a rf rs cf cl ct : K) :
    Src.reflection_at_interface__solid_fluid_LL_stress o a rf rs cf cl ct = (Src.solid_l_fluid_auto o a rf rs cf cl ct).1 ∧
    Src.reflection_at_interface__solid_fluid_LT_stress o a rf rs cf cl ct = (Src.solid_l_fluid_auto o a rf rs cf cl ct).2.1 ∧
    Src.reflection_at_interface__solid_fluid_TL_stress o a rf rs cf cl ct = (Src.solid_t_fluid_auto o a rf rs cf cl ct).1 ∧
    Src.reflection_at_interface__solid_fluid_TT_stress o a rf rs cf cl ct = (Src.solid_t_fluid_auto o a rf rs cf cl ct).2.1 ∧
    Src.reflection_at_interface__fluid_solid_LL_stress o a rf rs cf cl ct = (Src.fluid_solid_auto o a rf rs cf cl ct).1 :=
  ⟨rfl, rfl, rfl, rfl, rfl⟩

/-- displacement units = stress units times the documented impedance ratio `Z_in / Z_out = ρ_in c_in / (ρ_out c_out)`
(transmissions) resp. `c_in / c_out` (reflections, same medium), with the velocity of the mode on each side -/
theorem src_displacement_ratio {K : Type} [Add K] [Sub K] [Mul K] [Div K] [Neg K] (o : Src.Ops K) (a rf rs cf cl ct : K) :
    Src.transmission_at_interface__fluid_solid_LL_displacement o a rf rs cf cl ct
        = Src.transmission_at_interface__fluid_solid_LL_stress o a rf rs cf cl ct * ((rf * cf) / (rs * cl)) ∧
    Src.transmission_at_interface__fluid_solid_LT_displacement o a rf rs cf cl ct
        = Src.transmission_at_interface__fluid_solid_LT_stress o a rf rs cf cl ct * ((rf * cf) / (rs * ct)) ∧
    Src.transmission_at_interface__solid_fluid_LL_displacement o a rf rs cf cl ct
        = Src.transmission_at_interface__solid_fluid_LL_stress o a rf rs cf cl ct * ((rs * cl) / (rf * cf)) ∧
    Src.transmission_at_interface__solid_fluid_TL_displacement o a rf rs cf cl ct
        = Src.transmission_at_interface__solid_fluid_TL_stress o a rf rs cf cl ct * ((rs * ct) / (rf * cf)) ∧
    Src.reflection_at_interface__solid_fluid_LT_displacement o a rf rs cf cl ct
        = Src.reflection_at_interface__solid_fluid_LT_stress o a rf rs cf cl ct * (cl / ct) ∧
    Src.reflection_at_interface__solid_fluid_TL_displacement o a rf rs cf cl ct
        = Src.reflection_at_interface__solid_fluid_TL_stress o a rf rs cf cl ct * (ct / cl) ∧
    Src.reflection_at_interface__solid_fluid_LL_displacement o a rf rs cf cl ct
        = Src.reflection_at_interface__solid_fluid_LL_stress o a rf rs cf cl ct * (cl / cl) ∧
    Src.reflection_at_interface__solid_fluid_TT_displacement o a rf rs cf cl ct
        = Src.reflection_at_interface__solid_fluid_TT_stress o a rf rs cf cl ct * (ct / ct) ∧
    Src.reflection_at_interface__fluid_solid_LL_displacement o a rf rs cf cl ct
        = Src.reflection_at_interface__fluid_solid_LL_stress o a rf rs cf cl ct * (cf / cf) :=
  ⟨rfl, rfl, rfl, rfl, rfl, rfl, rfl, rfl, rfl⟩

/-- normal incidence through the translated helpers (an arcsine with `asin 0 = 0`): the acoustic-impedance formulas
`T = 2 Z_s/(Z_s + Z_f)` into the L mode and `R = (Z_s − Z_f)/(Z_s + Z_f)` seen from the fluid -/
theorem src_helpers_normal_incidence (asin : ℂ → ℂ) (ρf ρs cf cl ct : ℂ) (hρs : ρs ≠ 0) (hcl : cl ≠ 0) (h0 : asin 0 = 0) :
    Src.transmission_at_interface__fluid_solid_LL_stress (srcOps asin) 0 ρf ρs cf cl ct = 2 * (ρs * cl) / (ρs * cl + ρf * cf) ∧
    Src.reflection_at_interface__fluid_solid_LL_stress (srcOps asin) 0 ρf ρs cf cl ct = (ρs * cl - ρf * cf) / (ρs * cl + ρf * cf) := by
  have ht := tie_transmission_fluid_solid_LL_stress (srcOps asin) 0 ρf ρs cf cl ct
  have hr := tie_reflection_fluid_solid_LL_stress (srcOps asin) 0 ρf ρs cf cl ct
  rw [ctrig_srcOps] at ht hr
  rw [transmissionAt_normal_L asin (media ρf ρs cf cl ct) hρs hcl h0] at ht
  rw [reflectionAt_normal asin (media ρf ρs cf cl ct) hρs hcl h0] at hr
  exact ⟨(Except.ok.inj ht).symm, (Except.ok.inj hr).symm⟩

end OnSource

end Arim.C04
