import ArimModel.Chunk
import ArimModel.MinPlus
import ArimProofs.Generated.SrcC01
import ArimProofs.Generated.SrcC02
import ArimProofs.Lemmas.MinPlus
import ArimProofs.Lemmas.Chunk
import ArimProofs.Tie.C13
import Mathlib.Order.Defs.LinearOrder
/-! # C13 — results do not depend on threads, block sizes or completion order

The decomposition logic: `chunk_array` partitions an axis for every block size ≥ 1; the
tasks' tiles therefore partition the output; and the final array is the same for every
interleaving of the element operations that keeps each task's own order. -/
namespace Arim.C13
open Arim

theorem owner_lt (L b x : Nat) (hb : 0 < b) (hx : x < L) : owner b x < numChunks L b :=
  (lt_numChunks_iff hb).2 (Nat.lt_of_le_of_lt (Nat.div_mul_le_self x b) hx)

/-- For every block size `b ≥ 1` (also `b > L`), every index of `[0,L)` lies in the chunk
`owner b x` and in no other chunk: the slices of `chunk_array` are disjoint and cover the axis. -/
theorem chunk_partition (L b x i : Nat) (hb : 0 < b) (hx : x < L) :
    ((chunk L b i).1 ≤ x ∧ x < (chunk L b i).2) ↔ i = owner b x := by
  rw [mem_chunk_iff hb, and_iff_right hx]

/-- chunks are non-empty for `i < numChunks` (no task receives an empty view) -/
theorem chunk_nonempty (L b i : Nat) (hb : 0 < b) (hi : i < numChunks L b) :
    (chunk L b i).1 < (chunk L b i).2 := by
  have h := (mem_chunk_iff hb).2 ⟨(lt_numChunks_iff hb).1 hi, (Nat.mul_div_cancel i hb).symm⟩
  exact Nat.lt_of_le_of_lt h.1 h.2

theorem chunks_empty (b : Nat) (hb : 0 < b) : chunks 0 b = [] := by
  have : numChunks 0 b = 0 :=
    Nat.eq_zero_of_not_pos fun h => Nat.not_lt_zero _ ((lt_numChunks_iff hb).1 h)
  simp [chunks, this]

/-- the adjusted block size `ceil(block / m)` is at least one for every positive block size,
so the partition theorem applies to `find_minimum_times` and `distance_pairwise`. -/
theorem block_adj_pos (block m : Nat) (hb : 0 < block) (hm : 0 < m) : 0 < ceilDiv block m :=
  -- `ceilDiv block m` is `numChunks block m` by definition: a range of `block > 0` indices has a chunk `0`
  (lt_numChunks_iff hm).2 (by rwa [Nat.zero_mul])

/-- membership in the `(a,c)`-th tile of a 2-D decomposition ⇔ `(a,c)` are the owners:
every output cell belongs to exactly one task. -/
theorem tiles_partition (n p b i j a c : Nat) (hb : 0 < b) (hi : i < n) (hj : j < p) :
    (({ r := chunk n b a, c := chunk p b c } : Tile).mem i j = true) ↔
      (a = owner b i ∧ c = owner b j) :=
  Tile.mem_iff.trans
    (and_congr (chunk_partition n b i a hb hi) (chunk_partition p b j c hb hj))

variable {C P V : Type} [DecidableEq C]

/-- Let every cell be owned by one task (`own`), and let two schedules each contain, for every
task, exactly that task's operations in the task's own order (`filter (own · = t) = prog t`) —
i.e. both are interleavings of the same task programs, of which the sequential execution is one.
If tasks only touch cells they own, both schedules produce the same output array. -/
theorem schedule_independent {T : Type} [DecidableEq T]
    (step : C → P → V → V) (s : C → V) (own : C → T) (prog : T → List (C × P))
    (l₁ l₂ : List (C × P))
    (h₁ : ∀ t, l₁.filter (fun op => own op.1 = t) = prog t)
    (h₂ : ∀ t, l₂.filter (fun op => own op.1 = t) = prog t) :
    runOps step s l₁ = runOps step s l₂ := by
  funext c
  -- the operations on `c` are found among those of its owner, in both schedules
  have key : ∀ l : List (C × P), l.filter (fun op => op.1 = c)
      = (l.filter fun op => own op.1 = own c).filter fun op => op.1 = c := fun l => by
    rw [List.filter_filter]
    exact List.filter_congr fun op _ => by by_cases h : op.1 = c <;> simp [h]
  rw [runOps_cell, runOps_cell, key l₁, key l₂, h₁, h₂]

/-- cells that no operation addresses keep their value: a task cannot modify anything
outside the cells named by its operations (inputs are not cells of the output). -/
theorem untouched (step : C → P → V → V) (s : C → V) (ops : List (C × P)) (c : C)
    (h : ∀ op ∈ ops, op.1 ≠ c) : runOps step s ops c = s c := by
  rw [runOps_cell, List.filter_eq_nil_iff.2 fun op hop => by simpa using h op hop]
  rfl

example : chunks 10 3 = [(0,3),(3,6),(6,9),(9,10)] := by decide +kernel
example : (minTimesTiles 3 2 3 4).length = 4 := by decide +kernel

theorem chunks_cover_unique (L b x : Nat) (hb : 0 < b) (hx : x < L) :
    (chunks L b).countP (inSlice x) = 1 := by
  have : inSlice x ∘ chunk L b = (· == owner b x) := by
    funext i; rw [Function.comp, inSlice_chunk hb, Bool.eq_iff_iff]; simp [hx]
  rw [chunks, List.countP_map, this, ← List.count_eq_countP, List.count_range,
    if_pos (owner_lt L b x hb hx)]

theorem chunks_any (L b x : Nat) (hb : 0 < b) :
    (chunks L b).any (inSlice x) = decide (x < L) := by
  rw [Bool.eq_iff_iff]
  simp only [chunks, List.any_map, List.any_eq_true, List.mem_range, Function.comp,
    inSlice_chunk hb, decide_eq_true_eq]
  exact ⟨fun ⟨_, _, h, _⟩ => h, fun h => ⟨_, owner_lt L b x hb h, h, rfl⟩⟩

theorem chunks_pairwise_disjoint (L b : Nat) (hb : 0 < b) :
    (chunks L b).Pairwise SliceDisjoint := by
  rw [chunks, List.pairwise_map]
  refine List.pairwise_lt_range.imp fun {a a'} haa x hx => ?_
  simp only [inSlice_chunk hb, decide_eq_true_eq] at hx
  exact Nat.ne_of_lt haa (hx.1.2.trans hx.2.2.symm)

theorem chunks_nonempty (L b : Nat) (hb : 0 < b) (r : Nat × Nat) (hr : r ∈ chunks L b) :
    r.1 < r.2 := by
  obtain ⟨a, ha, rfl⟩ := mem_chunks.1 hr
  exact chunk_nonempty L b a hb ha

/-! `minTimesTiles` and `distTiles` are both `grid (chunks n b) (chunks p b)` for a block size `b`
(`minTimesTiles_eq_grid`, `distTiles_eq_grid`). -/

theorem gridChunks_cover_unique (n p b i j : Nat) (hb : 0 < b) (hi : i < n) (hj : j < p) :
    ((grid (chunks n b) (chunks p b)).filter (·.mem i j)).length = 1 := by
  rw [← List.countP_eq_length_filter, grid_countP, chunks_cover_unique n b i hb hi,
    chunks_cover_unique p b j hb hj]

theorem gridChunks_inside (n p b : Nat) (t : Tile) (ht : t ∈ grid (chunks n b) (chunks p b))
    (i j : Nat) (h : t.mem i j = true) : i < n ∧ j < p := by
  obtain ⟨hr, hc⟩ := mem_grid.1 ht
  obtain ⟨a, -, ha⟩ := mem_chunks.1 hr
  obtain ⟨c, -, hc⟩ := mem_chunks.1 hc
  rw [Tile.mem_iff, ← ha, ← hc] at h
  exact ⟨(mem_clip_iff.1 h.1).1, (mem_clip_iff.1 h.2).1⟩

theorem gridChunks_nonempty_tiles (n p b : Nat) (hb : 0 < b) (t : Tile)
    (ht : t ∈ grid (chunks n b) (chunks p b)) : t.r.1 < t.r.2 ∧ t.c.1 < t.c.2 := by
  obtain ⟨hr, hc⟩ := mem_grid.1 ht
  exact ⟨chunks_nonempty n b hb _ hr, chunks_nonempty p b hb _ hc⟩

theorem gridChunks_length (n p b : Nat) :
    (grid (chunks n b) (chunks p b)).length = numChunks n b * numChunks p b := by
  rw [length_grid, length_chunks, length_chunks]

theorem gridChunks_pairwise_disjoint (n p b : Nat) (hb : 0 < b) :
    (grid (chunks n b) (chunks p b)).Pairwise TileDisjoint :=
  grid_pairwise_disjoint _ _ (chunks_pairwise_disjoint n b hb) (chunks_pairwise_disjoint p b hb)

/-- exactly one task of the submitted list owns output cell `(i,j)` -/
theorem minTimesTiles_cover_unique (n m p block i j : Nat) (hb : 0 < block) (hm : 0 < m)
    (hi : i < n) (hj : j < p) :
    ((minTimesTiles n m p block).filter (·.mem i j)).length = 1 :=
  gridChunks_cover_unique n p _ i j (block_adj_pos block m hb hm) hi hj

/-- no task writes outside the output (no hypothesis on the block size needed) -/
theorem minTimesTiles_inside (n m p block : Nat) (t : Tile) (ht : t ∈ minTimesTiles n m p block)
    (i j : Nat) (h : t.mem i j = true) : i < n ∧ j < p :=
  gridChunks_inside n p _ t ht i j h

/-- every submitted task has a non-empty tile (an empty axis gives an empty list) -/
theorem minTimesTiles_nonempty_tiles (n m p block : Nat) (hb : 0 < block) (hm : 0 < m)
    (t : Tile) (ht : t ∈ minTimesTiles n m p block) : t.r.1 < t.r.2 ∧ t.c.1 < t.c.2 :=
  gridChunks_nonempty_tiles n p _ (block_adj_pos block m hb hm) t ht

theorem minTimesTiles_length (n m p block : Nat) :
    (minTimesTiles n m p block).length
      = numChunks n (ceilDiv block m) * numChunks p (ceilDiv block m) :=
  gridChunks_length n p _

theorem minTimesTiles_pairwise_disjoint (n m p block : Nat) (hb : 0 < block) (hm : 0 < m) :
    (minTimesTiles n m p block).Pairwise TileDisjoint :=
  gridChunks_pairwise_disjoint n p _ (block_adj_pos block m hb hm)

theorem minTimesTiles_disjoint_index (n m p block : Nat) (hb : 0 < block) (hm : 0 < m)
    (a c : Nat) (ha : a < (minTimesTiles n m p block).length)
    (hc : c < (minTimesTiles n m p block).length) (hac : a ≠ c) (i j : Nat) :
    ¬ (((minTimesTiles n m p block)[a]).mem i j = true ∧
       ((minTimesTiles n m p block)[c]).mem i j = true) := by
  have hp := List.pairwise_iff_getElem.1 (minTimesTiles_pairwise_disjoint n m p block hb hm)
  rcases Nat.lt_or_gt_of_ne hac with h | h
  · exact hp a c ha hc h i j
  · intro hh; exact hp c a hc ha h i j ⟨hh.2, hh.1⟩

theorem distTiles_cover_unique (n1 n2 block i j : Nat) (hb : 0 < block)
    (hi : i < n1) (hj : j < n2) :
    ((distTiles n1 n2 block).filter (·.mem i j)).length = 1 :=
  gridChunks_cover_unique n1 n2 _ i j (block_adj_pos block 6 hb (by decide)) hi hj

theorem distTiles_inside (n1 n2 block : Nat) (t : Tile) (ht : t ∈ distTiles n1 n2 block)
    (i j : Nat) (h : t.mem i j = true) : i < n1 ∧ j < n2 :=
  gridChunks_inside n1 n2 _ t ht i j h

theorem distTiles_nonempty_tiles (n1 n2 block : Nat) (hb : 0 < block)
    (t : Tile) (ht : t ∈ distTiles n1 n2 block) : t.r.1 < t.r.2 ∧ t.c.1 < t.c.2 :=
  gridChunks_nonempty_tiles n1 n2 _ (block_adj_pos block 6 hb (by decide)) t ht

theorem distTiles_length (n1 n2 block : Nat) :
    (distTiles n1 n2 block).length
      = numChunks n1 (ceilDiv block 6) * numChunks n2 (ceilDiv block 6) :=
  gridChunks_length n1 n2 _

theorem distTiles_pairwise_disjoint (n1 n2 block : Nat) (hb : 0 < block) :
    (distTiles n1 n2 block).Pairwise TileDisjoint :=
  gridChunks_pairwise_disjoint n1 n2 _ (block_adj_pos block 6 hb (by decide))

/-! Task `t` runs `tileOps f t`: for each of its cells `(i,j)`, row-major, write `f i j`
(`overwrite`). A schedule is an `Interleaving` of the task programs (any number of workers, any
completion order, any element-level merge that keeps each task's own order), or — stronger —
any permutation of all element operations. -/

/-- `schedule_independent` for interleavings, for an arbitrary `step` (also accumulating ones):
if task `k` only addresses cells owned by `k`, all interleavings of the task programs give the
same array. -/
theorem interleaving_independent (step : C → P → V → V) (s : C → V) (own : C → Nat)
    (progs : List (List (C × P)))
    (hown : ∀ k prog, progs[k]? = some prog → ∀ op ∈ prog, own op.1 = k)
    (l₁ l₂ : List (C × P)) (h₁ : Interleaving progs l₁) (h₂ : Interleaving progs l₂) :
    runOps step s l₁ = runOps step s l₂ :=
  schedule_independent step s own (fun t => (progs[t]?).getD []) l₁ l₂
    (fun t => h₁.filter_eq (fun op => own op.1) hown t)
    (fun t => h₂.filter_eq (fun op => own op.1) hown t)

/-- the array a grid of chunk tiles leaves under *any permutation of all element operations*:
`f` on the output, the initial values elsewhere, whatever the block size -/
theorem gridChunks_run (f : Nat → Nat → V) (s : Nat × Nat → V) (n p b : Nat) (hb : 0 < b)
    (ops : List ((Nat × Nat) × V))
    (h : ops.Perm ((grid (chunks n b) (chunks p b)).flatMap (tileOps f))) :
    runOps overwrite s ops = fun c => if c.1 < n ∧ c.2 < p then f c.1 c.2 else s c := by
  funext c
  rw [runOps_tiles_perm f s _ ops h, grid_any_mem, chunks_any n b c.1 hb, chunks_any p b c.2 hb]
  simp only [Bool.and_eq_true, decide_eq_true_eq]

/-- any interleaving of the task programs: every output cell holds `f i j`, every
other cell keeps its value -/
theorem tiled_result (f : Nat → Nat → V) (s : Nat × Nat → V) (n m p block : Nat)
    (hb : 0 < block) (hm : 0 < m) (ops : List ((Nat × Nat) × V))
    (h : Interleaving ((minTimesTiles n m p block).map (tileOps f)) ops) (i j : Nat) :
    runOps overwrite s ops (i, j) = if i < n ∧ j < p then f i j else s (i, j) :=
  congrFun (gridChunks_run f s n p _ (block_adj_pos block m hb hm) ops h.perm_flatMap) (i, j)

theorem tiled_result_outside (f : Nat → Nat → V) (s : Nat × Nat → V) (n m p block : Nat)
    (hb : 0 < block) (hm : 0 < m) (ops : List ((Nat × Nat) × V))
    (h : Interleaving ((minTimesTiles n m p block).map (tileOps f)) ops) (i j : Nat)
    (hout : ¬ (i < n ∧ j < p)) : runOps overwrite s ops (i, j) = s (i, j) := by
  rw [tiled_result f s n m p block hb hm ops h, if_neg hout]

/-- the output does not depend on block size, number of workers or completion order -/
theorem tiled_block_independent (f : Nat → Nat → V) (s : Nat × Nat → V)
    (n m p block block' : Nat) (hb : 0 < block) (hb' : 0 < block') (hm : 0 < m)
    (ops ops' : List ((Nat × Nat) × V))
    (h : Interleaving ((minTimesTiles n m p block).map (tileOps f)) ops)
    (h' : Interleaving ((minTimesTiles n m p block').map (tileOps f)) ops') :
    runOps overwrite s ops = runOps overwrite s ops' :=
  (gridChunks_run f s n p _ (block_adj_pos block m hb hm) ops h.perm_flatMap).trans
    (gridChunks_run f s n p _ (block_adj_pos block' m hb' hm) ops' h'.perm_flatMap).symm

/-- task-level permutations (tasks complete in any order, each runs atomically) -/
theorem tiled_perm_result (f : Nat → Nat → V) (s : Nat × Nat → V) (n m p block : Nat)
    (hb : 0 < block) (hm : 0 < m) (σtiles : List Tile)
    (hσ : σtiles.Perm (minTimesTiles n m p block)) (i j : Nat) :
    runOps overwrite s (σtiles.flatMap (tileOps f)) (i, j)
      = if i < n ∧ j < p then f i j else s (i, j) :=
  congrFun (gridChunks_run f s n p _ (block_adj_pos block m hb hm) _ (hσ.flatMap_right _)) (i, j)

theorem tiled_perm_block_independent (f : Nat → Nat → V) (s : Nat × Nat → V)
    (n m p block block' : Nat) (hb : 0 < block) (hb' : 0 < block') (hm : 0 < m)
    (σ σ' : List Tile) (hσ : σ.Perm (minTimesTiles n m p block))
    (hσ' : σ'.Perm (minTimesTiles n m p block')) :
    runOps overwrite s (σ.flatMap (tileOps f)) = runOps overwrite s (σ'.flatMap (tileOps f)) :=
  (gridChunks_run f s n p _ (block_adj_pos block m hb hm) _ (hσ.flatMap_right _)).trans
    (gridChunks_run f s n p _ (block_adj_pos block' m hb' hm) _ (hσ'.flatMap_right _)).symm

/-- instance: the tiled `find_minimum_times` computes the min-plus product with argmin in every
output cell, for every block size and schedule -/
theorem minTimes_tiled_result {α : Type} [LT α] [DecidableLT α] [Add α]
    (t1 t2 : Nat → Nat → α) (s : Nat × Nat → Option (α × Nat)) (n m p block : Nat)
    (hb : 0 < block) (hm : 0 < m) (ops : List ((Nat × Nat) × Option (α × Nat)))
    (h : Interleaving ((minTimesTiles n m p block).map (tileOps (minPlus m t1 t2))) ops)
    (i j : Nat) (hi : i < n) (hj : j < p) :
    runOps overwrite s ops (i, j) = minPlus m t1 t2 i j := by
  rw [tiled_result _ s n m p block hb hm ops h, if_pos ⟨hi, hj⟩]

theorem dist_tiled_result (f : Nat → Nat → V) (s : Nat × Nat → V) (n1 n2 block : Nat)
    (hb : 0 < block) (ops : List ((Nat × Nat) × V))
    (h : Interleaving ((distTiles n1 n2 block).map (tileOps f)) ops) (i j : Nat) :
    runOps overwrite s ops (i, j) = if i < n1 ∧ j < n2 then f i j else s (i, j) :=
  congrFun (gridChunks_run f s n1 n2 _ (block_adj_pos block 6 hb (by decide)) ops h.perm_flatMap)
    (i, j)

theorem dist_tiled_block_independent (f : Nat → Nat → V) (s : Nat × Nat → V)
    (n1 n2 block block' : Nat) (hb : 0 < block) (hb' : 0 < block')
    (ops ops' : List ((Nat × Nat) × V))
    (h : Interleaving ((distTiles n1 n2 block).map (tileOps f)) ops)
    (h' : Interleaving ((distTiles n1 n2 block').map (tileOps f)) ops') :
    runOps overwrite s ops = runOps overwrite s ops' :=
  (gridChunks_run f s n1 n2 _ (block_adj_pos block 6 hb (by decide)) ops h.perm_flatMap).trans
    (gridChunks_run f s n1 n2 _ (block_adj_pos block' 6 hb' (by decide)) ops' h'.perm_flatMap).symm

theorem dist_tiled_perm_result (f : Nat → Nat → V) (s : Nat × Nat → V) (n1 n2 block : Nat)
    (hb : 0 < block) (σtiles : List Tile) (hσ : σtiles.Perm (distTiles n1 n2 block)) (i j : Nat) :
    runOps overwrite s (σtiles.flatMap (tileOps f)) (i, j)
      = if i < n1 ∧ j < n2 then f i j else s (i, j) :=
  congrFun (gridChunks_run f s n1 n2 _ (block_adj_pos block 6 hb (by decide)) _
    (hσ.flatMap_right _)) (i, j)

section Inputs
variable {In Out : Type} [DecidableEq In] [DecidableEq Out]

/-- memory = inputs ⊕ outputs; operations write only output cells (`Sum.inr`): every input
cell keeps its value under any schedule and any step function -/
theorem inputs_untouched (step : Sum In Out → P → V → V) (mem : Sum In Out → V)
    (ops : List (Sum In Out × P)) (hw : ∀ op ∈ ops, ∃ o, op.1 = Sum.inr o) (a : In) :
    runOps step mem ops (Sum.inl a) = mem (Sum.inl a) := by
  apply untouched
  intro op hop e
  obtain ⟨o, ho⟩ := hw op hop
  rw [ho] at e
  cases e

/-- the same when each operation may additionally *read all current inputs* (`runMem`) -/
theorem runMem_inputs_untouched (step : (In → V) → Out → P → V → V) (mem : Sum In Out → V)
    (ops : List (Out × P)) (a : In) :
    runMem step mem ops (Sum.inl a) = mem (Sum.inl a) := by
  induction ops generalizing mem with
  | nil => rfl
  | cons op rest ih => rw [runMem_cons, ih]; simp

/-- and the outputs of `runMem` are those of `runOps` with the *initial* inputs closed over:
the `runOps` model (inputs are not cells) loses nothing -/
theorem runMem_outputs (step : (In → V) → Out → P → V → V) (mem : Sum In Out → V)
    (ops : List (Out × P)) (o : Out) :
    runMem step mem ops (Sum.inr o)
      = runOps (step (fun a => mem (Sum.inl a))) (fun o => mem (Sum.inr o)) ops o := by
  induction ops generalizing mem with
  | nil => rfl
  | cons op rest ih =>
    rw [runMem_cons, ih, runOps_cons]
    congr 1
    funext o'
    simp

end Inputs

/-- iteration `k` writes `body k` (computed from the shared inputs) into output element `k` -/
def prangeOps (body : Nat → V) (σ : List Nat) : List (Nat × V) := σ.map (fun k => (k, body k))

theorem prange_ops_perm (body : Nat → V) (s : Nat → V) (N : Nat) (ops : List (Nat × V))
    (h : ops.Perm (prangeOps body (List.range N))) :
    runOps overwrite s ops = fun k => if k < N then body k else s k := by
  funext k
  rw [runOps_overwrite_perm body s _ ops h]
  simp only [List.mem_range]

/-- running the `N` iterations in any order `σ` gives the same array -/
theorem prange_independent (body : Nat → V) (s : Nat → V) (N : Nat) (σ : List Nat)
    (h : σ.Perm (List.range N)) :
    runOps overwrite s (prangeOps body σ) = fun k => if k < N then body k else s k :=
  prange_ops_perm body s N _ (h.map _)

/-- `T = parts.length` threads, thread `t` executes the iterations `parts[t]`
in that order, the threads' writes interleave arbitrarily: the result is the sequential one -/
theorem prange_threads (body : Nat → V) (s : Nat → V) (N : Nat) (parts : List (List Nat))
    (hparts : parts.flatten.Perm (List.range N)) (ops : List (Nat × V))
    (h : Interleaving (parts.map (prangeOps body)) ops) :
    runOps overwrite s ops = runOps overwrite s (prangeOps body (List.range N)) := by
  have hflat : (parts.map (prangeOps body)).flatten = prangeOps body parts.flatten :=
    List.map_flatten.symm
  have h1 : ops.Perm (prangeOps body (List.range N)) := h.perm.trans (hflat ▸ hparts.map _)
  rw [prange_ops_perm body s N ops h1, prange_independent body s N _ (List.Perm.refl _)]

/-- generic step (e.g. `out[k] += …`): each iteration touches its own element once, so any
order of the iterations gives `step k (pay k) (s k)` -/
theorem prange_step_independent (step : Nat → P → V → V) (pay : Nat → P) (s : Nat → V)
    (N : Nat) (σ : List Nat) (h : σ.Perm (List.range N)) :
    runOps step s (σ.map (fun k => (k, pay k)))
      = fun k => if k < N then step k (pay k) (s k) else s k := by
  funext c
  -- the operations addressed to `c`: one if `c < N`, none otherwise
  have hf : (σ.map fun k => (k, pay k)).filter (fun op => op.1 = c)
      = (List.replicate (if c < N then 1 else 0) c).map fun k => (k, pay k) := by
    rw [List.filter_map, ← List.count_range, ← h.count_eq, ← List.filter_eq]; rfl
  rw [runOps_cell, hf]
  by_cases hc : c < N
  · rw [if_pos hc, if_pos hc]; rfl
  · rw [if_neg hc, if_neg hc]; rfl

section Scan
variable {α : Type} [LT α] [DecidableLT α]

theorem scanMin_zero (f : Nat → α) : scanMin f 0 = none := rfl

/-- `out[i,j]` depends only on row `i` of `t1` and column `j` of `t2`, indices `< m` -/
theorem minPlus_congr [Add α] (m : Nat) (t1 t2 u1 u2 : Nat → Nat → α) (i j : Nat)
    (h1 : ∀ k, k < m → t1 i k = u1 i k) (h2 : ∀ k, k < m → t2 k j = u2 k j) :
    minPlus m t1 t2 i j = minPlus m u1 u2 i j := by
  unfold minPlus
  apply scanMin_congr
  intro k hk
  rw [h1 k hk, h2 k hk]

end Scan

-- n=3, m=2, p=3, block=4 (block_adj = 2, four tiles)
example : minTimesTiles 3 2 3 4
    = [⟨(0,2),(0,2)⟩, ⟨(0,2),(2,3)⟩, ⟨(2,3),(0,2)⟩, ⟨(2,3),(2,3)⟩] := by decide +kernel
example : ((minTimesTiles 3 2 3 4).filter (·.mem 1 2)).length = 1 := by decide +kernel
example : ((minTimesTiles 3 2 3 4).filter (·.mem 1 2)).length = 1 :=
  minTimesTiles_cover_unique 3 2 3 4 1 2 (by decide) (by decide) (by decide) (by decide)
example : ((distTiles 5 4 13).filter (·.mem 4 3)).length = 1 := by decide +kernel
-- an out-of-range cell is owned by no task
example : ((minTimesTiles 3 2 3 4).filter (·.mem 3 0)).length = 0 := by decide +kernel
-- different block sizes really give different task lists
example : (minTimesTiles 3 2 3 4).length = 4 ∧ (minTimesTiles 3 2 3 1).length = 9
    ∧ (minTimesTiles 3 2 3 100).length = 1 := by decide +kernel

example : tileOps (fun i j => 10 * i + j) ⟨(0,2),(2,3)⟩ = [((0,2),2), ((1,2),12)] := by decide +kernel

-- reversed task order, concrete evaluation and via the theorem
example : runOps overwrite (fun _ => 0)
    ((minTimesTiles 3 2 3 4).reverse.flatMap (tileOps (fun i j => 10 * i + j))) (2, 1) = 21 := by
  decide +kernel
example : runOps overwrite (fun _ => 0)
    ((minTimesTiles 3 2 3 4).reverse.flatMap (tileOps (fun i j => 10 * i + j))) (3, 1) = 0 := by
  decide +kernel
example (f : Nat → Nat → Nat) (s : Nat × Nat → Nat) :
    runOps overwrite s ((minTimesTiles 3 2 3 4).reverse.flatMap (tileOps f)) (2, 1) = f 2 1 := by
  rw [tiled_perm_result f s 3 2 3 4 (by decide) (by decide) _ (List.reverse_perm _)]
  simp
-- block sizes 4 and 1, forward and reversed task orders: same array
example (f : Nat → Nat → Nat) (s : Nat × Nat → Nat) :
    runOps overwrite s ((minTimesTiles 3 2 3 4).reverse.flatMap (tileOps f))
      = runOps overwrite s ((minTimesTiles 3 2 3 1).flatMap (tileOps f)) :=
  tiled_perm_block_independent f s 3 2 3 4 1 (by decide) (by decide) (by decide) _ _
    (List.reverse_perm _) (List.Perm.refl _)

-- the hypothesis `Interleaving` is inhabited: sequential execution …
example (f : Nat → Nat → Nat) :
    Interleaving ((minTimesTiles 3 2 3 4).map (tileOps f))
      ((minTimesTiles 3 2 3 4).flatMap (tileOps f)) := by
  rw [List.flatMap_def]; exact Interleaving.flatten _
-- … and a genuine element-level merge of two tasks (task 1 starts first, then alternate)
example : Interleaving [[(0, 'a'), (1, 'b')], [(2, 'c'), (3, 'd')]]
    [(2, 'c'), (0, 'a'), (3, 'd'), (1, 'b')] :=
  .step (k := 1) rfl (.step (k := 0) rfl (.step (k := 1) rfl (.step (k := 0) rfl
    (.done (by decide)))))
-- an order-violating sequence is *not* an interleaving
example : ¬ Interleaving [[(0, 'a'), (1, 'b')]] [(1, 'b'), (0, 'a')] := by
  intro h
  have := h.filter_eq (fun _ => 0) (by
    intro k prog hk x _
    cases k with
    | zero => rfl
    | succ k => simp at hk) 0
  simp at this

example (body : Nat → Nat) (s : Nat → Nat) :
    runOps overwrite s (prangeOps body [2, 0, 3, 1]) = fun k => if k < 4 then body k else s k :=
  prange_independent body s 4 [2, 0, 3, 1] (by decide)
example (body : Nat → Nat) (s : Nat → Nat) (ops : List (Nat × Nat))
    (h : Interleaving ([[0, 2], [3, 1]].map (prangeOps body)) ops) :
    runOps overwrite s ops = runOps overwrite s (prangeOps body (List.range 4)) :=
  prange_threads body s 4 [[0, 2], [3, 1]] (by decide) ops h

/-! The translator (`harness/py2lean.py`, cell mode) accepts a numba kernel only if every iteration of its loop nest over
output cells reads inputs and its *own* output cell and writes that cell only (an access `out[i', j']` with other indices
is refused). So the per-cell definitions `Src.das_*`, `Src.find_minimum_times_cell`, `Src.distance_pairwise_cell`
(`Generated/SrcC02.lean`, `SrcC01.lean`, regenerated on every run) are bodies to which the schedule-independence theorems
above apply as they stand. -/
section OnSource
open Arim.Das

/-- delay-and-sum (stated for the nearest kernel `Src.das_noamp_nearest`; the proof uses nothing of it), any split of the
image points over numba threads, any interleaving of their writes: the result array holds, at every image point, the
value of the translated per-point kernel -/
theorem src_das_prange_threads {α β : Type} [Add α] [Sub α] [Mul α] [Div α] [Neg α]
    (o : Src.Ops α) (d : Data α β) (wt : Nat → Nat → β) (tx rx : Nat → Nat) (ltx lrx : Nat → Nat → α)
    (invdt t0 : α) (fill : β) (N n numpoints : Nat) (result0 : Nat → β)
    (parts : List (List Nat)) (hparts : parts.flatten.Perm (List.range numpoints)) (ops : List (Nat × β))
    (h : Interleaving (parts.map (prangeOps (fun pt => Src.das_noamp_nearest o d wt tx rx ltx lrx invdt t0 fill N n pt))) ops) :
    runOps overwrite result0 ops =
      fun pt => if pt < numpoints then Src.das_noamp_nearest o d wt tx rx ltx lrx invdt t0 fill N n pt else result0 pt := by
  rw [prange_threads _ result0 numpoints parts hparts ops h, prange_independent _ result0 numpoints _ (List.Perm.refl _)]

/-- min-plus product, any block size, any number of workers, any completion order: every output cell holds the
value of the translated per-cell kernel (entered with the initial `(inf, -1)`), cells outside the output are untouched -/
theorem src_find_minimum_times_tiled {α : Type} [LinearOrder α] [Add α] [Sub α] [Mul α] [Div α] [Neg α]
    (o : Src.Ops α) (t1 t2 : Nat → Nat → α) (inf : α) (n m p block : Nat) (hb : 0 < block) (hm : 0 < m)
    (s : Nat × Nat → α × Int) (ops : List ((Nat × Nat) × (α × Int)))
    (h : Interleaving ((minTimesTiles n m p block).map
      (tileOps (fun i j => Src.find_minimum_times_cell o t1 t2 inf (-1) m i j))) ops) (i j : Nat) :
    runOps overwrite s ops (i, j) =
      if i < n ∧ j < p then Src.find_minimum_times_cell o t1 t2 inf (-1) m i j else s (i, j) :=
  tiled_result _ s n m p block hb hm ops h i j

end OnSource

/-! `chunk_array` as translated from `/repo/src/arim/helpers.py` on every run -/
section OnSourceChunks
open Arim.Tie.C13

variable {K : Type} [Add K] [Sub K] [Mul K] [Div K] [Neg K]

/-- the slices `chunk_array` yields partition the axis: for every block size `≥ 1`, every axis length (also `0`, also
shorter than one block) and every position of the axis, the yielded slices, clipped to the axis as NumPy does when the
index tuple is used, are non-empty, pairwise disjoint, and every index of the axis lies in exactly one of them; nothing
outside the axis is selected -/
theorem src_chunk_array_partition (o : Src.Ops K) (shape : Nat → Nat) (ndim b axis : Nat) (hb : 0 < b) :
    (∀ r ∈ (Src.chunk_array o shape ndim b axis).map (clip (shape axis)), r.1 < r.2) ∧
    ((Src.chunk_array o shape ndim b axis).map (clip (shape axis))).Pairwise SliceDisjoint ∧
    (∀ x, x < shape axis → ((Src.chunk_array o shape ndim b axis).map (clip (shape axis))).countP (inSlice x) = 1) ∧
    (∀ x, ((Src.chunk_array o shape ndim b axis).map (clip (shape axis))).any (inSlice x) = decide (x < shape axis)) := by
  rw [tie_chunk_array_clipped]
  exact ⟨fun r hr => chunks_nonempty _ b hb r hr, chunks_pairwise_disjoint _ b hb,
    fun x hx => chunks_cover_unique _ b x hb hx, fun x => chunks_any _ b x hb⟩

/-- the number of tasks is `ceil(L / b)` and the slice sits at the position of the split axis in every index tuple -/
theorem src_chunk_array_count (o : Src.Ops K) (shape : Nat → Nat) (ndim b axis : Nat) :
    (Src.chunk_array o shape ndim b axis).length = numChunks (shape axis) b ∧
    ∀ t ∈ Src.chunk_array o shape ndim b axis, t.1 = axis := by
  refine ⟨?_, tie_chunk_array_position o shape ndim b axis⟩
  rw [tie_chunk_array]; simp

/-- block-size independence of what is covered: two positive block sizes select, all slices together, the same set of
indices of the axis (all of them) -/
theorem src_chunk_array_block_independent (o : Src.Ops K) (shape : Nat → Nat) (ndim b b' axis : Nat) (hb : 0 < b) (hb' : 0 < b') (x : Nat) :
    ((Src.chunk_array o shape ndim b axis).map (clip (shape axis))).any (inSlice x) =
      ((Src.chunk_array o shape ndim b' axis).map (clip (shape axis))).any (inSlice x) := by
  rw [(src_chunk_array_partition o shape ndim b axis hb).2.2.2 x, (src_chunk_array_partition o shape ndim b' axis hb').2.2.2 x]

/-- non-vacuity: the docstring's example, `chunk_array((10,), 3)`. `chunk_array` computes on `Nat` and calls none of the
routines, so the `Src.Ops` record is a placeholder (fields in the order `sin … trunc` of the structure) -/
example : (Src.chunk_array (K := Int) ⟨id, id, id, id, id, id, 0, fun n => n, id, id, id, id⟩ (fun _ => 10) 1 3 0).map (clip 10)
    = [(0, 3), (3, 6), (6, 9), (9, 10)] := by decide +kernel

end OnSourceChunks

end Arim.C13
