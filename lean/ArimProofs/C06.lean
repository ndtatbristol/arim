import ArimModel.Weights
import ArimProofs.Tie.C06
import ArimProofs.Lemmas.Weights
import ArimProofs.Lemmas.WeightsReal
import ArimProofs.Lemmas.Pencil
import Mathlib.Analysis.Complex.Trigonometric
import Mathlib.Analysis.Real.Sqrt
/-! # C06 — 2-D beamspread equals the geometric ray-tube divergence -/
namespace Arim.C06
open Arim.Weights

section basic
variable {K : Type} [Add K] [Sub K] [Mul K] [Div K]

/-- a single medium: with one leg the virtual distance is the leg length -/
theorem single_medium (t : RTrig K) (r v : K) :
    beamspread t [r] [v] [] = t.one / t.sqrt r := by
  rw [beamspread_eq, virtualDistance_singleton]

/-- the beamspread is a function of the leg lengths, velocities and incidence angles only: of the model by construction,
of `beamspread_2d_for_path` through `Tie.C06.tie_beamspread` -/
theorem depends_only_on (t : RTrig K) (legs vels thetas : List K) :
    beamspread t legs vels thetas = t.one / t.sqrt (virtualDistance t.one legs (gammas t vels thetas)) :=
  beamspread_eq t legs vels thetas

end basic

section closed
variable {K : Type} [Field K]

/-- the two loops of `virtual_distance` in closed form, `d = r₁ + Σ_k r_{k+1} / (γ_1 ⋯ γ_k)`; entries of `gs` beyond its
length count as `1`, as `take (k + 1)` makes them in the model -/
theorem virtualDistance_eq_sum_fin (r₁ : K) (rest gs : List K) :
    virtualDistance 1 (r₁ :: rest) gs =
      r₁ + ∑ k : Fin rest.length, rest[k] / ∏ i ∈ Finset.range (k.1 + 1), gs.getD i 1 := by
  rw [virtualDistance_cons_take, ← Fin.sum_univ_eq_sum_range (fun k => rest.getD k 1 / (gs.take (k + 1)).prod)]
  congr 1
  refine Finset.sum_congr rfl fun k _ => ?_
  rw [take_prod_eq, List.getD_eq_getElem?_getD, List.getElem?_eq_getElem k.2, Option.getD_some]; rfl

/-- the empty path has virtual distance `one` (a convention of the model, not a length) -/
theorem virtualDistance_nil (gs : List K) : virtualDistance (1 : K) [] gs = 1 := rfl

/-- transport the radius of curvature `ρ` along the remaining legs: `ρ ↦ γ ρ` across an
interface, `ρ ↦ ρ + r` along a leg (`γ = 1` where `gs` has run out) -/
def transport : K → List K → List K → K
  | ρ, [], _ => ρ
  | ρ, r :: rest, [] => transport (ρ + r) rest []
  | ρ, r :: rest, γ :: gs => transport (γ * ρ + r) rest gs

/-- `ρ_n`: `ρ₁ = r₁`, `ρ_{k+1} = γ_k ρ_k + r_{k+1}` -/
def rho : List K → List K → K
  | [], _ => 0
  | r₁ :: rest, gs => transport r₁ rest gs

@[simp] theorem rho_single (r₁ : K) (gs : List K) : rho [r₁] gs = r₁ := rfl

@[simp] theorem rho_step (r₁ r₂ γ : K) (rest gs : List K) :
    rho (r₁ :: r₂ :: rest) (γ :: gs) = rho ((γ * r₁ + r₂) :: rest) gs := rfl

theorem virtualDistance_eq_transport (ρ : K) (rest gs : List K) (hg : ∀ γ ∈ gs, γ ≠ 0) :
    virtualDistance 1 (ρ :: rest) gs = transport ρ rest gs / (gs.take rest.length).prod := by
  induction rest generalizing ρ gs with
  | nil => rw [virtualDistance_singleton, List.length_nil, List.take_zero, List.prod_nil, div_one]; rfl
  | cons r rest ih =>
    cases gs with
    | nil => rw [virtualDistance_step_nil, ih _ _ hg, List.take_nil, List.take_nil]; rfl
    | cons γ gs =>
      rw [virtualDistance_step _ _ _ _ _ (hg γ List.mem_cons_self),
        ih _ _ fun g hg' => hg g (List.mem_cons_of_mem _ hg'),
        List.length_cons, List.take_succ_cons, List.prod_cons, div_div, mul_comm _ γ]
      rfl

/-- the virtual distance of the code is the radius of curvature `ρ_n` of the ray tube, transported leg by leg, divided by
the product of the interface factors -/
theorem beamspread_eq_recursion (legs gs : List K) (hlen : gs.length + 1 = legs.length)
    (hg : ∀ γ ∈ gs, γ ≠ 0) :
    virtualDistance 1 legs gs = rho legs gs / gs.prod := by
  cases legs with
  | nil => cases hlen
  | cons r₁ rest =>
    rw [virtualDistance_eq_transport r₁ rest gs hg, List.take_of_length_le (Nat.succ.inj hlen).le]
    rfl

/-- similarity of the ray tube; false for the empty path, for which the model returns `one` -/
theorem scaling (s : K) (legs gs : List K) (hne : legs ≠ []) :
    virtualDistance 1 (legs.map (s * ·)) gs = s * virtualDistance 1 legs gs :=
  match legs, gs, hne with
  | [], _, hne => absurd rfl hne
  | [_], _, _ => rfl
  | r₁ :: r₂ :: rest, [], _ => by
    rw [virtualDistance_cons_cons_nil, mul_add, ← scaling s (r₂ :: rest) [] (List.cons_ne_nil _ _)]
    exact virtualDistance_cons_cons_nil _ _ _
  | r₁ :: r₂ :: rest, γ :: gs, _ => by
    rw [virtualDistance_cons_cons, mul_add, ← mul_div_assoc, ← scaling s (r₂ :: rest) gs (List.cons_ne_nil _ _)]
    exact virtualDistance_cons_cons _ _ _ _ _

end closed

section snell
variable {K : Type} [Field K]

/-- under Snell's law `vIn sin θOut = vOut sin θIn` (`θOut` the refraction or reflection angle) the factor
`(ν² − sin²θIn)/(ν cos²θIn)`, `ν = vIn/vOut`, of `beamspread_2d_for_path` is Schmerr's `vIn cos²θOut / (vOut cos²θIn)`.
For `vIn = 0` or `cos θIn = 0` both sides are `0` (`x/0 = 0`), so only `vOut ≠ 0` is assumed. -/
theorem gamma_snell (t : RTrig K) (vIn vOut θIn θOut : K) (vs ths : List K) (hv : vOut ≠ 0)
    (snell : vIn * t.sin θOut = vOut * t.sin θIn)
    (pyth : t.cos θOut * t.cos θOut = 1 - t.sin θOut * t.sin θOut) :
    gammas t (vIn :: vOut :: vs) (θIn :: ths) =
      (vIn * t.cos θOut * t.cos θOut) / (vOut * t.cos θIn * t.cos θIn) :: gammas t (vOut :: vs) ths := by
  simp only [gammas]
  rw [gamma_snell_aux vIn vOut (t.sin θIn) (t.cos θIn) (t.sin θOut) (t.cos θOut) hv snell pyth]

end snell

section real

theorem gamma_snell_real (vIn vOut θIn θOut : ℝ) (hv : vOut ≠ 0)
    (snell : vIn * Real.sin θOut = vOut * Real.sin θIn) :
    gammas rT [vIn, vOut] [θIn] = [(vIn * Real.cos θOut ^ 2) / (vOut * Real.cos θIn ^ 2)] := by
  rw [gamma_snell rT vIn vOut θIn θOut [] [] hv snell (rT_pyth θOut)]
  simp only [gammas, rT_cos, pow_two, mul_assoc]

/-- beamspread = ray-tube divergence: the returned amplitude is `1/√(ρ_n / ∏ γ_k)`, `ρ_n` the radius of curvature of the
ray tube transported leg by leg (`ρ ↦ γ ρ` at an interface, `ρ ↦ ρ + r` along a leg) -/
theorem beamspread_eq_tube (legs vels thetas : List ℝ)
    (hlen : (gammas rT vels thetas).length + 1 = legs.length)
    (hg : ∀ γ ∈ gammas rT vels thetas, γ ≠ 0) :
    beamspread rT legs vels thetas =
      1 / Real.sqrt (rho legs (gammas rT vels thetas) / (gammas rT vels thetas).prod) := by
  rw [beamspread_eq, rT_one, rT_sqrt, beamspread_eq_recursion legs _ hlen hg]

theorem gammas_length {K : Type} [Field K] (t : RTrig K) (vels thetas : List K)
    (h : thetas.length + 1 = vels.length) : (gammas t vels thetas).length = thetas.length := by
  rw [gammas_eq_map, List.length_map, ifaces_length _ _ h]

theorem scaling_beamspread (s : ℝ) (hs : 0 ≤ s) (legs vels thetas : List ℝ) (hne : legs ≠ []) :
    beamspread rT (legs.map (s * ·)) vels thetas = beamspread rT legs vels thetas / Real.sqrt s := by
  rw [beamspread_eq, beamspread_eq, rT_one, rT_sqrt, scaling s legs _ hne, Real.sqrt_mul hs, div_div, mul_comm]

/-- only the ratios of the velocities enter the interface factors -/
theorem gammas_velocity_scale {K : Type} [Field K] (t : RTrig K) (c : K) (hc : c ≠ 0) (vels thetas : List K) :
    gammas t (vels.map (c * ·)) thetas = gammas t vels thetas := by
  simp only [gammas_eq_map, ifaces_map_left, List.map_map, Function.comp_def, Prod.map, id, gammaF,
    mul_div_mul_left _ _ hc]

/-- another system of units (the micrometre / picosecond oracle of the check): lengths times `s`, velocities times `c` -/
theorem unit_system_beamspread (s c : ℝ) (hs : 0 ≤ s) (hc : c ≠ 0) (legs vels thetas : List ℝ) (hne : legs ≠ []) :
    beamspread rT (legs.map (s * ·)) (vels.map (c * ·)) thetas = beamspread rT legs vels thetas / Real.sqrt s := by
  rw [← scaling_beamspread s hs legs vels thetas hne, beamspread_eq, beamspread_eq, gammas_velocity_scale rT c hc]

end real

section examples

/-- three legs, two interfaces: `1 + 2/2 + 3/(2·(1/2)) = 5` -/
example : virtualDistance (1 : ℚ) [1, 2, 3] [2, 1 / 2] = 5 := by
  decide +kernel

/-- the same through the ray-tube recursion: `ρ₃ = (1/2)(2·1 + 2) + 3 = 5`, `∏ γ = 1` -/
example : rho ([1, 2, 3] : List ℚ) [2, 1 / 2] / ([2, 1 / 2] : List ℚ).prod = 5 := by
  decide +kernel

example : virtualDistance (1 : ℚ) [1, 2, 3] [2, 1 / 2] = rho [1, 2, 3] [2, 1 / 2] / ([2, 1 / 2] : List ℚ).prod :=
  beamspread_eq_recursion _ _ rfl (by decide +kernel)

/-- `γ = vIn cos²θOut / (vOut cos²θIn) = 3·(9/25) / (4·(16/25)) = 27/64` -/
example : gammas tQ [3, 4] [0] = [27 / 64] := by
  rw [gamma_snell tQ 3 4 0 1 [] [] (by decide +kernel) (by decide +kernel) (by decide +kernel)]
  decide +kernel

example : virtualDistance (1 : ℚ) ([1, 2].map (4 * ·)) [2] = 4 * virtualDistance 1 [1, 2] [2] :=
  scaling 4 _ _ (List.cons_ne_nil _ _)

/-- `hne` of `scaling` is needed -/
example : virtualDistance (1 : ℚ) (([] : List ℚ).map (4 * ·)) [2] ≠ 4 * virtualDistance 1 [] [2] := by
  decide +kernel

/-- normal incidence on a real two-leg path: Snell holds trivially and `γ = vIn/vOut` -/
example : gammas rT [1, 2] [0] = [1 / 2] := by
  rw [gamma_snell_real 1 2 0 0 (by norm_num) (by simp)]
  norm_num

end examples

/-! Why `γ` is the right factor. For a point source above a planar interface, the refracted rays through neighbouring
points of the interface pass, to first order, through exactly one point of the central refracted ray, at distance `γ ρ₁`
behind the interface; along a leg that distance grows by the leg length. These are the two steps of `rho`. Setting and
notation (`th1`, `rho1`, `th2`, `F`) are those of `Lemmas/Pencil.lean`. -/
section pencil
open Arim.Pencil

/-- the transmission `F` in coordinates: `V0 = P(s0) - ρ2 • d(s0)`, `P(s) = (s, 0)`,
`d(s) = (sin th2 s, -cos th2 s)`, `n(s) = (cos th2 s, sin th2 s)`, `F(s) = (V0 - P(s)) ⬝ n(s)` -/
theorem F_def (a h κ s0 ρ2 s : ℝ) :
    F a h κ s0 ρ2 s =
      let V0x := s0 - ρ2 * Real.sin (th2 a h κ s0)
      let V0y := 0 - ρ2 * (-Real.cos (th2 a h κ s0))
      (V0x - s) * Real.cos (th2 a h κ s) + (V0y - 0) * Real.sin (th2 a h κ s) := rfl

/-- the reflection `F` in coordinates: `d(s) = (sin th2 s, +cos th2 s)`, `n(s) = (cos th2 s, -sin th2 s)` -/
theorem Frefl_def (a h κ s0 ρ2 s : ℝ) :
    Frefl a h κ s0 ρ2 s =
      let V0x := s0 - ρ2 * Real.sin (th2 a h κ s0)
      let V0y := 0 - ρ2 * Real.cos (th2 a h κ s0)
      (V0x - s) * Real.cos (th2 a h κ s) + (V0y - 0) * (-Real.sin (th2 a h κ s)) := rfl

/-- the candidate centre lies on the central ray, whatever `ρ2` -/
theorem F_at_s0 (a h κ s0 ρ2 : ℝ) : F a h κ s0 ρ2 s0 = 0 := by
  unfold F; ring

theorem snell_holds (a h κ s : ℝ) (hk : |κ * Real.sin (th1 a h s)| < 1) :
    Real.sin (th2 a h κ s) = κ * Real.sin (th1 a h s) :=
  have := abs_lt.1 hk
  Real.sin_arcsin this.1.le this.2.le

/-- the incoming pencil: the rays through `P(s)` turn as those of a point source at distance `rho1`,
`dth1/ds = cos th1 / rho1` -/
theorem incidence_deriv (a h s0 : ℝ) (hh : 0 < h) :
    HasDerivAt (th1 a h) (Real.cos (th1 a h s0) / rho1 a h s0) s0 := by
  have hr : rho1 a h s0 ≠ 0 := (rho1_pos hh s0).ne'
  refine (((hasDerivAt_id s0).sub_const a).div_const h).arctan.congr_deriv ?_
  rw [cos_th1 hh]
  change 1 / (1 + ((s0 - a) / h) ^ 2) * (1 / h) = _
  rw [one_add_sq_div hh]
  field_simp

theorem incidence_deriv' (a h s0 : ℝ) (hh : 0 < h) :
    HasDerivAt (th1 a h) (Real.cos (th1 a h s0) ^ 2 / h) s0 :=
  cos_div_rho1 hh s0 ▸ incidence_deriv a h s0 hh

/-- Snell's law differentiated along the interface -/
theorem snell_deriv (a h κ s0 : ℝ) (hh : 0 < h) (hk : |κ * Real.sin (th1 a h s0)| < 1) :
    HasDerivAt (th2 a h κ)
      (κ * Real.cos (th1 a h s0) / Real.cos (th2 a h κ s0) * (Real.cos (th1 a h s0) / rho1 a h s0)) s0 := by
  have hlt := abs_lt.1 hk
  refine ((Real.hasDerivAt_arcsin hlt.1.ne' hlt.2.ne).comp s0
    ((incidence_deriv a h s0 hh).sin.const_mul κ)).congr_deriv ?_
  rw [← Real.cos_arcsin]
  change 1 / Real.cos (th2 a h κ s0) * _ = _
  ring

/-- the same derivative in the form of `incidence_deriv`: the transmitted rays turn as those of a point source at
distance `γ rho1`, `dth2/ds = cos th2 / (γ rho1)` -/
theorem snell_deriv_centre (a h κ s0 : ℝ) (hh : 0 < h) (hκ : 0 < κ)
    (hk : |κ * Real.sin (th1 a h s0)| < 1) :
    let γ := Real.cos (th2 a h κ s0) ^ 2 / (κ * Real.cos (th1 a h s0) ^ 2)
    HasDerivAt (th2 a h κ) (Real.cos (th2 a h κ s0) / (γ * rho1 a h s0)) s0 :=
  (snell_deriv a h κ s0 hh hk).congr_deriv (th2_deriv_eq hh hκ s0 hk)

/-- `F'(s0) = -cos th2 + ρ2 · th2'(s0)` for any candidate distance `ρ2` -/
theorem F_deriv (a h κ s0 ρ2 : ℝ) (hh : 0 < h) (hk : |κ * Real.sin (th1 a h s0)| < 1) :
    HasDerivAt (F a h κ s0 ρ2)
      (-Real.cos (th2 a h κ s0) + ρ2 *
        (κ * Real.cos (th1 a h s0) / Real.cos (th2 a h κ s0) * (Real.cos (th1 a h s0) / rho1 a h s0))) s0 := by
  have hθ := snell_deriv a h κ s0 hh hk
  generalize κ * Real.cos (th1 a h s0) / Real.cos (th2 a h κ s0) * (Real.cos (th1 a h s0) / rho1 a h s0) = D
    at hθ ⊢
  refine ((((hasDerivAt_id s0).const_sub (s0 - ρ2 * Real.sin (th2 a h κ s0))).mul hθ.cos).add
    (hθ.sin.const_mul ((0 - ρ2 * (-Real.cos (th2 a h κ s0))) - 0))).congr_deriv ?_
  -- product rule on `(V0x − s) · cos (th2 s) + V0y · sin (th2 s)`. At `s = s0` the factor `V0x − s` is `−ρ2 sin th2` and
  -- `V0y = ρ2 cos th2`, so the terms with `D = th2'` add up to `ρ2 D (sin² + cos²)`
  have := Real.sin_sq_add_cos_sq (th2 a h κ s0)
  simp only [id]
  linear_combination (ρ2 * D) * this

/-- `F'(s0) = cos th2 · (ρ2' / (γ rho1) − 1)` vanishes for the distance `γ rho1` and no other -/
theorem refraction_law_iff (a h κ s0 ρ2' : ℝ) (hh : 0 < h) (hκ : 0 < κ)
    (hk : |κ * Real.sin (th1 a h s0)| < 1) :
    HasDerivAt (F a h κ s0 ρ2') 0 s0 ↔
      ρ2' = Real.cos (th2 a h κ s0) ^ 2 / (κ * Real.cos (th1 a h s0) ^ 2) * rho1 a h s0 := by
  have hc := (cos_th2_pos hk).ne'
  have hρ : gam a h κ s0 * rho1 a h s0 ≠ 0 := (mul_pos (gam_pos hκ hk) (rho1_pos hh s0)).ne'
  have hF : HasDerivAt (F a h κ s0 ρ2')
      (Real.cos (th2 a h κ s0) * (ρ2' / (gam a h κ s0 * rho1 a h s0) - 1)) s0 := by
    refine (F_deriv a h κ s0 ρ2' hh hk).congr_deriv ?_
    rw [th2_deriv_eq hh hκ s0 hk]; ring
  change _ ↔ ρ2' = gam a h κ s0 * rho1 a h s0
  rw [← div_eq_one_iff_eq hρ, ← sub_eq_zero (b := (1 : ℝ)), ← mul_right_inj' hc, mul_zero]
  exact ⟨fun h0 => hF.unique h0, fun e => e ▸ hF⟩

/-- the refraction law of the pencil: the point at distance `γ rho1` behind `P(s0)` on the transmitted central ray is the
centre of the transmitted pencil -/
theorem refraction_law (a h κ s0 : ℝ) (hh : 0 < h) (hκ : 0 < κ) (hk : |κ * Real.sin (th1 a h s0)| < 1) :
    let γ := Real.cos (th2 a h κ s0) ^ 2 / (κ * Real.cos (th1 a h s0) ^ 2)
    HasDerivAt (F a h κ s0 (γ * rho1 a h s0)) 0 s0 :=
  (refraction_law_iff a h κ s0 _ hh hκ hk).2 rfl

/-- no other distance gives a centre -/
theorem refraction_law_unique (a h κ s0 ρ2' : ℝ) (hh : 0 < h) (hκ : 0 < κ)
    (hk : |κ * Real.sin (th1 a h s0)| < 1) (hF : HasDerivAt (F a h κ s0 ρ2') 0 s0) :
    ρ2' = Real.cos (th2 a h κ s0) ^ 2 / (κ * Real.cos (th1 a h s0) ^ 2) * rho1 a h s0 :=
  (refraction_law_iff a h κ s0 ρ2' hh hκ hk).1 hF

/-- the pencil's `γ` is the factor that `beamspread_2d_for_path` computes (`κ = vOut / vIn`) -/
theorem refraction_law_gamma_is_code (a h vIn vOut s0 : ℝ) (hvi : 0 < vIn) (hvo : 0 < vOut)
    (hk : |vOut / vIn * Real.sin (th1 a h s0)| < 1) :
    gammas rT [vIn, vOut] [th1 a h s0] =
      [Real.cos (th2 a h (vOut / vIn) s0) ^ 2 / (vOut / vIn * Real.cos (th1 a h s0) ^ 2)] := by
  have snell : vIn * Real.sin (th2 a h (vOut / vIn) s0) = vOut * Real.sin (th1 a h s0) := by
    rw [snell_holds _ _ _ _ hk]; field_simp
  rw [gamma_snell_real vIn vOut _ _ hvo.ne' snell, div_mul_eq_mul_div, div_div_eq_mul_div, mul_comm vIn]

theorem gammaF_abs (vIn vOut θ : ℝ) : gammaF rT vIn vOut |θ| = gammaF rT vIn vOut θ := by
  rcases abs_choice θ with e | e <;> rw [e]
  simp only [gammaF, rT, Real.sin_neg, Real.cos_neg, neg_mul_neg]

/-- the same for the unsigned incidence angle `|th1|` that arim stores -/
theorem refraction_law_gamma_is_code_abs (a h vIn vOut s0 : ℝ) (hvi : 0 < vIn) (hvo : 0 < vOut)
    (hk : |vOut / vIn * Real.sin (th1 a h s0)| < 1) :
    gammas rT [vIn, vOut] [|th1 a h s0|] =
      [Real.cos (th2 a h (vOut / vIn) s0) ^ 2 / (vOut / vIn * Real.cos (th1 a h s0) ^ 2)] := by
  rw [← refraction_law_gamma_is_code a h vIn vOut s0 hvi hvo hk]
  exact congrArg (· :: []) (gammaF_abs vIn vOut _)

/-- reflection (`κ = vRefl / vInc`) is the mirror image `y ↦ -y` of the transmission picture -/
theorem reflection_eq_transmission (a h κ s0 ρ2 : ℝ) : Frefl a h κ s0 ρ2 = F a h κ s0 ρ2 := by
  funext s; unfold Frefl F; ring

theorem reflection_law (a h κ s0 : ℝ) (hh : 0 < h) (hκ : 0 < κ) (hk : |κ * Real.sin (th1 a h s0)| < 1) :
    let γ := Real.cos (th2 a h κ s0) ^ 2 / (κ * Real.cos (th1 a h s0) ^ 2)
    HasDerivAt (Frefl a h κ s0 (γ * rho1 a h s0)) 0 s0 := by
  intro γ
  rw [reflection_eq_transmission]
  exact refraction_law a h κ s0 hh hκ hk

theorem reflection_law_unique (a h κ s0 ρ2' : ℝ) (hh : 0 < h) (hκ : 0 < κ)
    (hk : |κ * Real.sin (th1 a h s0)| < 1) (hF : HasDerivAt (Frefl a h κ s0 ρ2') 0 s0) :
    ρ2' = Real.cos (th2 a h κ s0) ^ 2 / (κ * Real.cos (th1 a h s0) ^ 2) * rho1 a h s0 := by
  rw [reflection_eq_transmission] at hF
  exact refraction_law_unique a h κ s0 ρ2' hh hκ hk hF

/-- specular reflection without mode conversion (`κ = 1`): `th2 = th1`, `γ = 1`, the image source is at the same
distance -/
theorem reflection_law_specular (a h s0 : ℝ) (hh : 0 < h) :
    HasDerivAt (Frefl a h 1 s0 (rho1 a h s0)) 0 s0 := by
  have hk : |1 * Real.sin (th1 a h s0)| < 1 := by rw [one_mul]; exact abs_sin_th1_lt_one a h s0
  have hth : th2 a h 1 s0 = th1 a h s0 := by
    unfold th2; rw [one_mul]; unfold th1
    exact Real.arcsin_sin (Real.neg_pi_div_two_lt_arctan _).le (Real.arctan_lt_pi_div_two _).le
  simpa only [hth, one_mul, div_self (pow_ne_zero 2 (cos_th1_pos a h s0).ne')]
    using reflection_law a h 1 s0 hh one_pos hk

/-- free propagation: `V0 = P - ρ • d` is a fixed point; after a further length `r` along the central ray
(`P' = P + r • d`, `|d| = 1`) its distance is `ρ + r` -/
theorem leg_transport (Px Py dx dy ρ r : ℝ) (hd : dx ^ 2 + dy ^ 2 = 1) (hρ : 0 ≤ ρ + r) :
    let V0x := Px - ρ * dx
    let V0y := Py - ρ * dy
    Real.sqrt (((Px + r * dx) - V0x) ^ 2 + ((Py + r * dy) - V0y) ^ 2) = ρ + r := by
  intro V0x V0y
  have : ((Px + r * dx) - V0x) ^ 2 + ((Py + r * dy) - V0y) ^ 2 = (ρ + r) ^ 2 := by
    simp only [V0x, V0y]; linear_combination (ρ + r) ^ 2 * hd
  rw [this, Real.sqrt_sq hρ]

/-- without the sign condition: the component of `P' - V0` along `d` is `ρ + r`, the one across is `0` -/
theorem leg_transport_signed (Px Py dx dy ρ r : ℝ) (hd : dx ^ 2 + dy ^ 2 = 1) :
    let V0x := Px - ρ * dx
    let V0y := Py - ρ * dy
    ((Px + r * dx) - V0x) * dx + ((Py + r * dy) - V0y) * dy = ρ + r ∧
      ((Px + r * dx) - V0x) * dy - ((Py + r * dy) - V0y) * dx = 0 := by
  intro V0x V0y
  constructor
  · simp only [V0x, V0y]; linear_combination (ρ + r) * hd
  · simp only [V0x, V0y]; ring

/-- one step of `rho`: at the interface the centre of the pencil jumps to distance `γ rho1` (`refraction_law`), along the
next leg of length `r2` the distance grows by `r2` (`leg_transport`) -/
theorem interface_then_leg (a h κ s0 r2 : ℝ) (hh : 0 < h) (hκ : 0 < κ)
    (hk : |κ * Real.sin (th1 a h s0)| < 1) (hr : 0 ≤ r2) :
    let γ := Real.cos (th2 a h κ s0) ^ 2 / (κ * Real.cos (th1 a h s0) ^ 2)
    let ρ2 := γ * rho1 a h s0
    let V0x := s0 - ρ2 * Real.sin (th2 a h κ s0)
    let V0y := 0 - ρ2 * (-Real.cos (th2 a h κ s0))
    HasDerivAt (F a h κ s0 ρ2) 0 s0 ∧
      Real.sqrt (((s0 + r2 * Real.sin (th2 a h κ s0)) - V0x) ^ 2
        + ((0 + r2 * (-Real.cos (th2 a h κ s0))) - V0y) ^ 2) = rho [rho1 a h s0, r2] [γ] := by
  intro γ ρ2 V0x V0y
  have hρ : 0 ≤ ρ2 + r2 := add_nonneg (mul_pos (gam_pos hκ hk) (rho1_pos hh s0)).le hr
  -- `rho [rho1, r2] [γ]` computes to `γ rho1 + r2`
  exact ⟨refraction_law a h κ s0 hh hκ hk,
    leg_transport s0 0 _ _ ρ2 r2 (by rw [neg_sq]; exact Real.sin_sq_add_cos_sq _) hρ⟩

/-- one interface, two legs: the virtual distance of the code is (distance of the target from the centre of the
transmitted pencil) / `γ` -/
theorem tube_two_legs (a h vIn vOut s0 r2 : ℝ) (hvi : 0 < vIn) (hvo : 0 < vOut)
    (hk : |vOut / vIn * Real.sin (th1 a h s0)| < 1) :
    let γ := Real.cos (th2 a h (vOut / vIn) s0) ^ 2 / (vOut / vIn * Real.cos (th1 a h s0) ^ 2)
    virtualDistance 1 [rho1 a h s0, r2] (gammas rT [vIn, vOut] [th1 a h s0]) =
      (γ * rho1 a h s0 + r2) / γ := by
  intro γ
  have hγ : γ ≠ 0 := (gam_pos (div_pos hvo hvi) hk).ne'
  rw [refraction_law_gamma_is_code a h vIn vOut s0 hvi hvo hk,
    beamspread_eq_recursion _ _ rfl (List.forall_mem_singleton.2 hγ),
    List.prod_singleton]
  rfl

theorem tube_two_legs_beamspread (a h vIn vOut s0 r2 : ℝ) (hvi : 0 < vIn) (hvo : 0 < vOut)
    (hk : |vOut / vIn * Real.sin (th1 a h s0)| < 1) :
    let γ := Real.cos (th2 a h (vOut / vIn) s0) ^ 2 / (vOut / vIn * Real.cos (th1 a h s0) ^ 2)
    beamspread rT [rho1 a h s0, r2] [vIn, vOut] [th1 a h s0] =
      1 / Real.sqrt ((γ * rho1 a h s0 + r2) / γ) := by
  intro γ
  rw [beamspread_eq, rT_one, rT_sqrt, tube_two_legs a h vIn vOut s0 r2 hvi hvo hk]

/-- the hypothesis `hk` can be met: `a = 0`, `h = 1`, `s0 = 1/2`, `κ = 2/1` give `κ sin th1 = 2/√5` -/
theorem example_below_critical : |(2 : ℝ) / 1 * Real.sin (th1 0 1 (1 / 2))| < 1 := by
  have hr : (1 : ℝ) < rho1 0 1 (1 / 2) := Real.lt_sqrt_of_sq_lt (by norm_num)
  have h0 := zero_lt_one.trans hr
  rw [sin_th1 one_pos, div_one, sub_zero, ← mul_div_assoc, abs_div, abs_of_pos h0, div_lt_one h0]
  norm_num
  exact hr

example : HasDerivAt (F 0 1 (2 / 1) (1 / 2)
    (Real.cos (th2 0 1 (2 / 1) (1 / 2)) ^ 2 / (2 / 1 * Real.cos (th1 0 1 (1 / 2)) ^ 2) * rho1 0 1 (1 / 2))) 0 (1 / 2) :=
  refraction_law 0 1 (2 / 1) (1 / 2) one_pos (by norm_num) example_below_critical

example (r2 : ℝ) :
    virtualDistance 1 [rho1 0 1 (1 / 2), r2] (gammas rT [1, 2] [th1 0 1 (1 / 2)]) =
      (Real.cos (th2 0 1 (2 / 1) (1 / 2)) ^ 2 / (2 / 1 * Real.cos (th1 0 1 (1 / 2)) ^ 2) * rho1 0 1 (1 / 2) + r2) /
        (Real.cos (th2 0 1 (2 / 1) (1 / 2)) ^ 2 / (2 / 1 * Real.cos (th1 0 1 (1 / 2)) ^ 2)) :=
  tube_two_legs 0 1 1 2 (1 / 2) r2 one_pos two_pos example_below_critical

end pencil

/-! The same about `Src.beamspread_2d_for_path` (`Generated/SrcC06.lean`), the translation of
`arim.model.beamspread_2d_for_path` made from `/repo/src` on every run; `Tie.C06.tie_beamspread` identifies it with the
model. -/
section OnSource
open Arim.Tie.C06

/-- a ray through `ni` interfaces, `ni - 1 ≥ 1` legs -/
theorem src_beamspread_eq_tube (ni : Nat) (vel ang leg : Nat → ℝ) (hn : 2 ≤ ni)
    (hg : ∀ γ ∈ gammas rT (velsOf vel (ni - 1)) (angsOf ang (ni - 1)), γ ≠ 0) :
    Src.beamspread_2d_for_path srcOps ni vel ang leg =
      1 / Real.sqrt (rho (legsOf leg (ni - 1)) (gammas rT (velsOf vel (ni - 1)) (angsOf ang (ni - 1)))
        / (gammas rT (velsOf vel (ni - 1)) (angsOf ang (ni - 1))).prod) := by
  rw [tie_beamspread srcOps ni vel ang leg hn, rtrig_srcOps]
  refine beamspread_eq_tube _ _ _ ?_ hg
  rw [gammas_length rT _ _ (by rw [length_angsOf, length_velsOf]; omega), length_angsOf, length_legsOf]
  omega

/-- two interfaces, one leg -/
theorem src_single_medium (vel ang leg : Nat → ℝ) :
    Src.beamspread_2d_for_path srcOps 2 vel ang leg = 1 / Real.sqrt (leg 1) := by
  rw [tie_beamspread srcOps 2 vel ang leg (by omega), rtrig_srcOps]
  exact single_medium rT (leg 1) (vel 0)

theorem src_scaling (s : ℝ) (hs : 0 ≤ s) (ni : Nat) (vel ang leg : Nat → ℝ) (hn : 2 ≤ ni) :
    Src.beamspread_2d_for_path srcOps ni vel ang (fun k => s * leg k) =
      Src.beamspread_2d_for_path srcOps ni vel ang leg / Real.sqrt s := by
  rw [tie_beamspread srcOps ni vel ang _ hn, tie_beamspread srcOps ni vel ang leg hn, rtrig_srcOps]
  rw [legsOf_map (s * ·)]
  refine scaling_beamspread s hs _ _ _ (List.ne_nil_of_length_pos ?_)
  rw [length_legsOf]; omega

end OnSource

end Arim.C06
