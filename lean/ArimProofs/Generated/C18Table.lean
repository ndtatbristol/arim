import ArimModel.Views
/-! GENERATED on every run by harness/c18.py from what `make_views` returns in /repo. Do not edit. -/
namespace Arim.C18Gen
open Arim.Views

def table0 : List ViewEntry := [
  ⟨.immersion, ['L'], ['L'], ⟨['L'], [⟨.probe, none, none, none, none, some true⟩, ⟨.frontwall, some .fluidSolid, some .transmission, none, some false, some true⟩, ⟨.grid, none, none, none, some true, none⟩], [.couplant, .block], ['L', 'L']⟩, ⟨['L'], [⟨.probe, none, none, none, none, some true⟩, ⟨.frontwall, some .fluidSolid, some .transmission, none, some false, some true⟩, ⟨.grid, none, none, none, some true, none⟩], [.couplant, .block], ['L', 'L']⟩, ['L', 'L']⟩,
  ⟨.immersion, ['L'], ['T'], ⟨['L'], [⟨.probe, none, none, none, none, some true⟩, ⟨.frontwall, some .fluidSolid, some .transmission, none, some false, some true⟩, ⟨.grid, none, none, none, some true, none⟩], [.couplant, .block], ['L', 'L']⟩, ⟨['T'], [⟨.probe, none, none, none, none, some true⟩, ⟨.frontwall, some .fluidSolid, some .transmission, none, some false, some true⟩, ⟨.grid, none, none, none, some true, none⟩], [.couplant, .block], ['L', 'T']⟩, ['L', 'T']⟩,
  ⟨.immersion, ['T'], ['L'], ⟨['T'], [⟨.probe, none, none, none, none, some true⟩, ⟨.frontwall, some .fluidSolid, some .transmission, none, some false, some true⟩, ⟨.grid, none, none, none, some true, none⟩], [.couplant, .block], ['L', 'T']⟩, ⟨['L'], [⟨.probe, none, none, none, none, some true⟩, ⟨.frontwall, some .fluidSolid, some .transmission, none, some false, some true⟩, ⟨.grid, none, none, none, some true, none⟩], [.couplant, .block], ['L', 'L']⟩, ['T', 'L']⟩,
  ⟨.immersion, ['T'], ['T'], ⟨['T'], [⟨.probe, none, none, none, none, some true⟩, ⟨.frontwall, some .fluidSolid, some .transmission, none, some false, some true⟩, ⟨.grid, none, none, none, some true, none⟩], [.couplant, .block], ['L', 'T']⟩, ⟨['T'], [⟨.probe, none, none, none, none, some true⟩, ⟨.frontwall, some .fluidSolid, some .transmission, none, some false, some true⟩, ⟨.grid, none, none, none, some true, none⟩], [.couplant, .block], ['L', 'T']⟩, ['T', 'T']⟩,
  ⟨.immersion, ['L', 'L'], ['L'], ⟨['L', 'L'], [⟨.probe, none, none, none, none, some true⟩, ⟨.frontwall, some .fluidSolid, some .transmission, none, some false, some true⟩, ⟨.backwall, some .solidFluid, some .reflection, some .couplant, some false, some false⟩, ⟨.grid, none, none, none, some true, none⟩], [.couplant, .block, .block], ['L', 'L', 'L']⟩, ⟨['L'], [⟨.probe, none, none, none, none, some true⟩, ⟨.frontwall, some .fluidSolid, some .transmission, none, some false, some true⟩, ⟨.grid, none, none, none, some true, none⟩], [.couplant, .block], ['L', 'L']⟩, ['L', 'L']⟩,
  ⟨.immersion, ['L', 'L'], ['T'], ⟨['L', 'L'], [⟨.probe, none, none, none, none, some true⟩, ⟨.frontwall, some .fluidSolid, some .transmission, none, some false, some true⟩, ⟨.backwall, some .solidFluid, some .reflection, some .couplant, some false, some false⟩, ⟨.grid, none, none, none, some true, none⟩], [.couplant, .block, .block], ['L', 'L', 'L']⟩, ⟨['T'], [⟨.probe, none, none, none, none, some true⟩, ⟨.frontwall, some .fluidSolid, some .transmission, none, some false, some true⟩, ⟨.grid, none, none, none, some true, none⟩], [.couplant, .block], ['L', 'T']⟩, ['L', 'T']⟩,
  ⟨.immersion, ['L', 'T'], ['L'], ⟨['L', 'T'], [⟨.probe, none, none, none, none, some true⟩, ⟨.frontwall, some .fluidSolid, some .transmission, none, some false, some true⟩, ⟨.backwall, some .solidFluid, some .reflection, some .couplant, some false, some false⟩, ⟨.grid, none, none, none, some true, none⟩], [.couplant, .block, .block], ['L', 'L', 'T']⟩, ⟨['L'], [⟨.probe, none, none, none, none, some true⟩, ⟨.frontwall, some .fluidSolid, some .transmission, none, some false, some true⟩, ⟨.grid, none, none, none, some true, none⟩], [.couplant, .block], ['L', 'L']⟩, ['T', 'L']⟩,
  ⟨.immersion, ['L', 'T'], ['T'], ⟨['L', 'T'], [⟨.probe, none, none, none, none, some true⟩, ⟨.frontwall, some .fluidSolid, some .transmission, none, some false, some true⟩, ⟨.backwall, some .solidFluid, some .reflection, some .couplant, some false, some false⟩, ⟨.grid, none, none, none, some true, none⟩], [.couplant, .block, .block], ['L', 'L', 'T']⟩, ⟨['T'], [⟨.probe, none, none, none, none, some true⟩, ⟨.frontwall, some .fluidSolid, some .transmission, none, some false, some true⟩, ⟨.grid, none, none, none, some true, none⟩], [.couplant, .block], ['L', 'T']⟩, ['T', 'T']⟩,
  ⟨.immersion, ['T', 'L'], ['L'], ⟨['T', 'L'], [⟨.probe, none, none, none, none, some true⟩, ⟨.frontwall, some .fluidSolid, some .transmission, none, some false, some true⟩, ⟨.backwall, some .solidFluid, some .reflection, some .couplant, some false, some false⟩, ⟨.grid, none, none, none, some true, none⟩], [.couplant, .block, .block], ['L', 'T', 'L']⟩, ⟨['L'], [⟨.probe, none, none, none, none, some true⟩, ⟨.frontwall, some .fluidSolid, some .transmission, none, some false, some true⟩, ⟨.grid, none, none, none, some true, none⟩], [.couplant, .block], ['L', 'L']⟩, ['L', 'L']⟩,
  ⟨.immersion, ['T', 'L'], ['T'], ⟨['T', 'L'], [⟨.probe, none, none, none, none, some true⟩, ⟨.frontwall, some .fluidSolid, some .transmission, none, some false, some true⟩, ⟨.backwall, some .solidFluid, some .reflection, some .couplant, some false, some false⟩, ⟨.grid, none, none, none, some true, none⟩], [.couplant, .block, .block], ['L', 'T', 'L']⟩, ⟨['T'], [⟨.probe, none, none, none, none, some true⟩, ⟨.frontwall, some .fluidSolid, some .transmission, none, some false, some true⟩, ⟨.grid, none, none, none, some true, none⟩], [.couplant, .block], ['L', 'T']⟩, ['L', 'T']⟩,
  ⟨.immersion, ['T', 'T'], ['L'], ⟨['T', 'T'], [⟨.probe, none, none, none, none, some true⟩, ⟨.frontwall, some .fluidSolid, some .transmission, none, some false, some true⟩, ⟨.backwall, some .solidFluid, some .reflection, some .couplant, some false, some false⟩, ⟨.grid, none, none, none, some true, none⟩], [.couplant, .block, .block], ['L', 'T', 'T']⟩, ⟨['L'], [⟨.probe, none, none, none, none, some true⟩, ⟨.frontwall, some .fluidSolid, some .transmission, none, some false, some true⟩, ⟨.grid, none, none, none, some true, none⟩], [.couplant, .block], ['L', 'L']⟩, ['T', 'L']⟩,
  ⟨.immersion, ['T', 'T'], ['T'], ⟨['T', 'T'], [⟨.probe, none, none, none, none, some true⟩, ⟨.frontwall, some .fluidSolid, some .transmission, none, some false, some true⟩, ⟨.backwall, some .solidFluid, some .reflection, some .couplant, some false, some false⟩, ⟨.grid, none, none, none, some true, none⟩], [.couplant, .block, .block], ['L', 'T', 'T']⟩, ⟨['T'], [⟨.probe, none, none, none, none, some true⟩, ⟨.frontwall, some .fluidSolid, some .transmission, none, some false, some true⟩, ⟨.grid, none, none, none, some true, none⟩], [.couplant, .block], ['L', 'T']⟩, ['T', 'T']⟩,
  ⟨.immersion, ['L'], ['L', 'L'], ⟨['L'], [⟨.probe, none, none, none, none, some true⟩, ⟨.frontwall, some .fluidSolid, some .transmission, none, some false, some true⟩, ⟨.grid, none, none, none, some true, none⟩], [.couplant, .block], ['L', 'L']⟩, ⟨['L', 'L'], [⟨.probe, none, none, none, none, some true⟩, ⟨.frontwall, some .fluidSolid, some .transmission, none, some false, some true⟩, ⟨.backwall, some .solidFluid, some .reflection, some .couplant, some false, some false⟩, ⟨.grid, none, none, none, some true, none⟩], [.couplant, .block, .block], ['L', 'L', 'L']⟩, ['L', 'L']⟩,
  ⟨.immersion, ['L'], ['L', 'T'], ⟨['L'], [⟨.probe, none, none, none, none, some true⟩, ⟨.frontwall, some .fluidSolid, some .transmission, none, some false, some true⟩, ⟨.grid, none, none, none, some true, none⟩], [.couplant, .block], ['L', 'L']⟩, ⟨['T', 'L'], [⟨.probe, none, none, none, none, some true⟩, ⟨.frontwall, some .fluidSolid, some .transmission, none, some false, some true⟩, ⟨.backwall, some .solidFluid, some .reflection, some .couplant, some false, some false⟩, ⟨.grid, none, none, none, some true, none⟩], [.couplant, .block, .block], ['L', 'T', 'L']⟩, ['L', 'L']⟩,
  ⟨.immersion, ['L'], ['T', 'L'], ⟨['L'], [⟨.probe, none, none, none, none, some true⟩, ⟨.frontwall, some .fluidSolid, some .transmission, none, some false, some true⟩, ⟨.grid, none, none, none, some true, none⟩], [.couplant, .block], ['L', 'L']⟩, ⟨['L', 'T'], [⟨.probe, none, none, none, none, some true⟩, ⟨.frontwall, some .fluidSolid, some .transmission, none, some false, some true⟩, ⟨.backwall, some .solidFluid, some .reflection, some .couplant, some false, some false⟩, ⟨.grid, none, none, none, some true, none⟩], [.couplant, .block, .block], ['L', 'L', 'T']⟩, ['L', 'T']⟩,
  ⟨.immersion, ['L'], ['T', 'T'], ⟨['L'], [⟨.probe, none, none, none, none, some true⟩, ⟨.frontwall, some .fluidSolid, some .transmission, none, some false, some true⟩, ⟨.grid, none, none, none, some true, none⟩], [.couplant, .block], ['L', 'L']⟩, ⟨['T', 'T'], [⟨.probe, none, none, none, none, some true⟩, ⟨.frontwall, some .fluidSolid, some .transmission, none, some false, some true⟩, ⟨.backwall, some .solidFluid, some .reflection, some .couplant, some false, some false⟩, ⟨.grid, none, none, none, some true, none⟩], [.couplant, .block, .block], ['L', 'T', 'T']⟩, ['L', 'T']⟩,
  ⟨.immersion, ['T'], ['L', 'L'], ⟨['T'], [⟨.probe, none, none, none, none, some true⟩, ⟨.frontwall, some .fluidSolid, some .transmission, none, some false, some true⟩, ⟨.grid, none, none, none, some true, none⟩], [.couplant, .block], ['L', 'T']⟩, ⟨['L', 'L'], [⟨.probe, none, none, none, none, some true⟩, ⟨.frontwall, some .fluidSolid, some .transmission, none, some false, some true⟩, ⟨.backwall, some .solidFluid, some .reflection, some .couplant, some false, some false⟩, ⟨.grid, none, none, none, some true, none⟩], [.couplant, .block, .block], ['L', 'L', 'L']⟩, ['T', 'L']⟩,
  ⟨.immersion, ['T'], ['L', 'T'], ⟨['T'], [⟨.probe, none, none, none, none, some true⟩, ⟨.frontwall, some .fluidSolid, some .transmission, none, some false, some true⟩, ⟨.grid, none, none, none, some true, none⟩], [.couplant, .block], ['L', 'T']⟩, ⟨['T', 'L'], [⟨.probe, none, none, none, none, some true⟩, ⟨.frontwall, some .fluidSolid, some .transmission, none, some false, some true⟩, ⟨.backwall, some .solidFluid, some .reflection, some .couplant, some false, some false⟩, ⟨.grid, none, none, none, some true, none⟩], [.couplant, .block, .block], ['L', 'T', 'L']⟩, ['T', 'L']⟩,
  ⟨.immersion, ['T'], ['T', 'L'], ⟨['T'], [⟨.probe, none, none, none, none, some true⟩, ⟨.frontwall, some .fluidSolid, some .transmission, none, some false, some true⟩, ⟨.grid, none, none, none, some true, none⟩], [.couplant, .block], ['L', 'T']⟩, ⟨['L', 'T'], [⟨.probe, none, none, none, none, some true⟩, ⟨.frontwall, some .fluidSolid, some .transmission, none, some false, some true⟩, ⟨.backwall, some .solidFluid, some .reflection, some .couplant, some false, some false⟩, ⟨.grid, none, none, none, some true, none⟩], [.couplant, .block, .block], ['L', 'L', 'T']⟩, ['T', 'T']⟩,
  ⟨.immersion, ['T'], ['T', 'T'], ⟨['T'], [⟨.probe, none, none, none, none, some true⟩, ⟨.frontwall, some .fluidSolid, some .transmission, none, some false, some true⟩, ⟨.grid, none, none, none, some true, none⟩], [.couplant, .block], ['L', 'T']⟩, ⟨['T', 'T'], [⟨.probe, none, none, none, none, some true⟩, ⟨.frontwall, some .fluidSolid, some .transmission, none, some false, some true⟩, ⟨.backwall, some .solidFluid, some .reflection, some .couplant, some false, some false⟩, ⟨.grid, none, none, none, some true, none⟩], [.couplant, .block, .block], ['L', 'T', 'T']⟩, ['T', 'T']⟩,
  ⟨.immersion, ['L', 'L'], ['L', 'L'], ⟨['L', 'L'], [⟨.probe, none, none, none, none, some true⟩, ⟨.frontwall, some .fluidSolid, some .transmission, none, some false, some true⟩, ⟨.backwall, some .solidFluid, some .reflection, some .couplant, some false, some false⟩, ⟨.grid, none, none, none, some true, none⟩], [.couplant, .block, .block], ['L', 'L', 'L']⟩, ⟨['L', 'L'], [⟨.probe, none, none, none, none, some true⟩, ⟨.frontwall, some .fluidSolid, some .transmission, none, some false, some true⟩, ⟨.backwall, some .solidFluid, some .reflection, some .couplant, some false, some false⟩, ⟨.grid, none, none, none, some true, none⟩], [.couplant, .block, .block], ['L', 'L', 'L']⟩, ['L', 'L']⟩,
  ⟨.immersion, ['L', 'L'], ['L', 'T'], ⟨['L', 'L'], [⟨.probe, none, none, none, none, some true⟩, ⟨.frontwall, some .fluidSolid, some .transmission, none, some false, some true⟩, ⟨.backwall, some .solidFluid, some .reflection, some .couplant, some false, some false⟩, ⟨.grid, none, none, none, some true, none⟩], [.couplant, .block, .block], ['L', 'L', 'L']⟩, ⟨['T', 'L'], [⟨.probe, none, none, none, none, some true⟩, ⟨.frontwall, some .fluidSolid, some .transmission, none, some false, some true⟩, ⟨.backwall, some .solidFluid, some .reflection, some .couplant, some false, some false⟩, ⟨.grid, none, none, none, some true, none⟩], [.couplant, .block, .block], ['L', 'T', 'L']⟩, ['L', 'L']⟩,
  ⟨.immersion, ['L', 'L'], ['T', 'L'], ⟨['L', 'L'], [⟨.probe, none, none, none, none, some true⟩, ⟨.frontwall, some .fluidSolid, some .transmission, none, some false, some true⟩, ⟨.backwall, some .solidFluid, some .reflection, some .couplant, some false, some false⟩, ⟨.grid, none, none, none, some true, none⟩], [.couplant, .block, .block], ['L', 'L', 'L']⟩, ⟨['L', 'T'], [⟨.probe, none, none, none, none, some true⟩, ⟨.frontwall, some .fluidSolid, some .transmission, none, some false, some true⟩, ⟨.backwall, some .solidFluid, some .reflection, some .couplant, some false, some false⟩, ⟨.grid, none, none, none, some true, none⟩], [.couplant, .block, .block], ['L', 'L', 'T']⟩, ['L', 'T']⟩,
  ⟨.immersion, ['L', 'L'], ['T', 'T'], ⟨['L', 'L'], [⟨.probe, none, none, none, none, some true⟩, ⟨.frontwall, some .fluidSolid, some .transmission, none, some false, some true⟩, ⟨.backwall, some .solidFluid, some .reflection, some .couplant, some false, some false⟩, ⟨.grid, none, none, none, some true, none⟩], [.couplant, .block, .block], ['L', 'L', 'L']⟩, ⟨['T', 'T'], [⟨.probe, none, none, none, none, some true⟩, ⟨.frontwall, some .fluidSolid, some .transmission, none, some false, some true⟩, ⟨.backwall, some .solidFluid, some .reflection, some .couplant, some false, some false⟩, ⟨.grid, none, none, none, some true, none⟩], [.couplant, .block, .block], ['L', 'T', 'T']⟩, ['L', 'T']⟩,
  ⟨.immersion, ['L', 'T'], ['L', 'L'], ⟨['L', 'T'], [⟨.probe, none, none, none, none, some true⟩, ⟨.frontwall, some .fluidSolid, some .transmission, none, some false, some true⟩, ⟨.backwall, some .solidFluid, some .reflection, some .couplant, some false, some false⟩, ⟨.grid, none, none, none, some true, none⟩], [.couplant, .block, .block], ['L', 'L', 'T']⟩, ⟨['L', 'L'], [⟨.probe, none, none, none, none, some true⟩, ⟨.frontwall, some .fluidSolid, some .transmission, none, some false, some true⟩, ⟨.backwall, some .solidFluid, some .reflection, some .couplant, some false, some false⟩, ⟨.grid, none, none, none, some true, none⟩], [.couplant, .block, .block], ['L', 'L', 'L']⟩, ['T', 'L']⟩,
  ⟨.immersion, ['L', 'T'], ['L', 'T'], ⟨['L', 'T'], [⟨.probe, none, none, none, none, some true⟩, ⟨.frontwall, some .fluidSolid, some .transmission, none, some false, some true⟩, ⟨.backwall, some .solidFluid, some .reflection, some .couplant, some false, some false⟩, ⟨.grid, none, none, none, some true, none⟩], [.couplant, .block, .block], ['L', 'L', 'T']⟩, ⟨['T', 'L'], [⟨.probe, none, none, none, none, some true⟩, ⟨.frontwall, some .fluidSolid, some .transmission, none, some false, some true⟩, ⟨.backwall, some .solidFluid, some .reflection, some .couplant, some false, some false⟩, ⟨.grid, none, none, none, some true, none⟩], [.couplant, .block, .block], ['L', 'T', 'L']⟩, ['T', 'L']⟩,
  ⟨.immersion, ['L', 'T'], ['T', 'L'], ⟨['L', 'T'], [⟨.probe, none, none, none, none, some true⟩, ⟨.frontwall, some .fluidSolid, some .transmission, none, some false, some true⟩, ⟨.backwall, some .solidFluid, some .reflection, some .couplant, some false, some false⟩, ⟨.grid, none, none, none, some true, none⟩], [.couplant, .block, .block], ['L', 'L', 'T']⟩, ⟨['L', 'T'], [⟨.probe, none, none, none, none, some true⟩, ⟨.frontwall, some .fluidSolid, some .transmission, none, some false, some true⟩, ⟨.backwall, some .solidFluid, some .reflection, some .couplant, some false, some false⟩, ⟨.grid, none, none, none, some true, none⟩], [.couplant, .block, .block], ['L', 'L', 'T']⟩, ['T', 'T']⟩,
  ⟨.immersion, ['L', 'T'], ['T', 'T'], ⟨['L', 'T'], [⟨.probe, none, none, none, none, some true⟩, ⟨.frontwall, some .fluidSolid, some .transmission, none, some false, some true⟩, ⟨.backwall, some .solidFluid, some .reflection, some .couplant, some false, some false⟩, ⟨.grid, none, none, none, some true, none⟩], [.couplant, .block, .block], ['L', 'L', 'T']⟩, ⟨['T', 'T'], [⟨.probe, none, none, none, none, some true⟩, ⟨.frontwall, some .fluidSolid, some .transmission, none, some false, some true⟩, ⟨.backwall, some .solidFluid, some .reflection, some .couplant, some false, some false⟩, ⟨.grid, none, none, none, some true, none⟩], [.couplant, .block, .block], ['L', 'T', 'T']⟩, ['T', 'T']⟩,
  ⟨.immersion, ['T', 'L'], ['L', 'L'], ⟨['T', 'L'], [⟨.probe, none, none, none, none, some true⟩, ⟨.frontwall, some .fluidSolid, some .transmission, none, some false, some true⟩, ⟨.backwall, some .solidFluid, some .reflection, some .couplant, some false, some false⟩, ⟨.grid, none, none, none, some true, none⟩], [.couplant, .block, .block], ['L', 'T', 'L']⟩, ⟨['L', 'L'], [⟨.probe, none, none, none, none, some true⟩, ⟨.frontwall, some .fluidSolid, some .transmission, none, some false, some true⟩, ⟨.backwall, some .solidFluid, some .reflection, some .couplant, some false, some false⟩, ⟨.grid, none, none, none, some true, none⟩], [.couplant, .block, .block], ['L', 'L', 'L']⟩, ['L', 'L']⟩,
  ⟨.immersion, ['T', 'L'], ['L', 'T'], ⟨['T', 'L'], [⟨.probe, none, none, none, none, some true⟩, ⟨.frontwall, some .fluidSolid, some .transmission, none, some false, some true⟩, ⟨.backwall, some .solidFluid, some .reflection, some .couplant, some false, some false⟩, ⟨.grid, none, none, none, some true, none⟩], [.couplant, .block, .block], ['L', 'T', 'L']⟩, ⟨['T', 'L'], [⟨.probe, none, none, none, none, some true⟩, ⟨.frontwall, some .fluidSolid, some .transmission, none, some false, some true⟩, ⟨.backwall, some .solidFluid, some .reflection, some .couplant, some false, some false⟩, ⟨.grid, none, none, none, some true, none⟩], [.couplant, .block, .block], ['L', 'T', 'L']⟩, ['L', 'L']⟩,
  ⟨.immersion, ['T', 'L'], ['T', 'L'], ⟨['T', 'L'], [⟨.probe, none, none, none, none, some true⟩, ⟨.frontwall, some .fluidSolid, some .transmission, none, some false, some true⟩, ⟨.backwall, some .solidFluid, some .reflection, some .couplant, some false, some false⟩, ⟨.grid, none, none, none, some true, none⟩], [.couplant, .block, .block], ['L', 'T', 'L']⟩, ⟨['L', 'T'], [⟨.probe, none, none, none, none, some true⟩, ⟨.frontwall, some .fluidSolid, some .transmission, none, some false, some true⟩, ⟨.backwall, some .solidFluid, some .reflection, some .couplant, some false, some false⟩, ⟨.grid, none, none, none, some true, none⟩], [.couplant, .block, .block], ['L', 'L', 'T']⟩, ['L', 'T']⟩,
  ⟨.immersion, ['T', 'L'], ['T', 'T'], ⟨['T', 'L'], [⟨.probe, none, none, none, none, some true⟩, ⟨.frontwall, some .fluidSolid, some .transmission, none, some false, some true⟩, ⟨.backwall, some .solidFluid, some .reflection, some .couplant, some false, some false⟩, ⟨.grid, none, none, none, some true, none⟩], [.couplant, .block, .block], ['L', 'T', 'L']⟩, ⟨['T', 'T'], [⟨.probe, none, none, none, none, some true⟩, ⟨.frontwall, some .fluidSolid, some .transmission, none, some false, some true⟩, ⟨.backwall, some .solidFluid, some .reflection, some .couplant, some false, some false⟩, ⟨.grid, none, none, none, some true, none⟩], [.couplant, .block, .block], ['L', 'T', 'T']⟩, ['L', 'T']⟩,
  ⟨.immersion, ['T', 'T'], ['L', 'L'], ⟨['T', 'T'], [⟨.probe, none, none, none, none, some true⟩, ⟨.frontwall, some .fluidSolid, some .transmission, none, some false, some true⟩, ⟨.backwall, some .solidFluid, some .reflection, some .couplant, some false, some false⟩, ⟨.grid, none, none, none, some true, none⟩], [.couplant, .block, .block], ['L', 'T', 'T']⟩, ⟨['L', 'L'], [⟨.probe, none, none, none, none, some true⟩, ⟨.frontwall, some .fluidSolid, some .transmission, none, some false, some true⟩, ⟨.backwall, some .solidFluid, some .reflection, some .couplant, some false, some false⟩, ⟨.grid, none, none, none, some true, none⟩], [.couplant, .block, .block], ['L', 'L', 'L']⟩, ['T', 'L']⟩,
  ⟨.immersion, ['T', 'T'], ['L', 'T'], ⟨['T', 'T'], [⟨.probe, none, none, none, none, some true⟩, ⟨.frontwall, some .fluidSolid, some .transmission, none, some false, some true⟩, ⟨.backwall, some .solidFluid, some .reflection, some .couplant, some false, some false⟩, ⟨.grid, none, none, none, some true, none⟩], [.couplant, .block, .block], ['L', 'T', 'T']⟩, ⟨['T', 'L'], [⟨.probe, none, none, none, none, some true⟩, ⟨.frontwall, some .fluidSolid, some .transmission, none, some false, some true⟩, ⟨.backwall, some .solidFluid, some .reflection, some .couplant, some false, some false⟩, ⟨.grid, none, none, none, some true, none⟩], [.couplant, .block, .block], ['L', 'T', 'L']⟩, ['T', 'L']⟩,
  ⟨.immersion, ['T', 'T'], ['T', 'L'], ⟨['T', 'T'], [⟨.probe, none, none, none, none, some true⟩, ⟨.frontwall, some .fluidSolid, some .transmission, none, some false, some true⟩, ⟨.backwall, some .solidFluid, some .reflection, some .couplant, some false, some false⟩, ⟨.grid, none, none, none, some true, none⟩], [.couplant, .block, .block], ['L', 'T', 'T']⟩, ⟨['L', 'T'], [⟨.probe, none, none, none, none, some true⟩, ⟨.frontwall, some .fluidSolid, some .transmission, none, some false, some true⟩, ⟨.backwall, some .solidFluid, some .reflection, some .couplant, some false, some false⟩, ⟨.grid, none, none, none, some true, none⟩], [.couplant, .block, .block], ['L', 'L', 'T']⟩, ['T', 'T']⟩,
  ⟨.immersion, ['T', 'T'], ['T', 'T'], ⟨['T', 'T'], [⟨.probe, none, none, none, none, some true⟩, ⟨.frontwall, some .fluidSolid, some .transmission, none, some false, some true⟩, ⟨.backwall, some .solidFluid, some .reflection, some .couplant, some false, some false⟩, ⟨.grid, none, none, none, some true, none⟩], [.couplant, .block, .block], ['L', 'T', 'T']⟩, ⟨['T', 'T'], [⟨.probe, none, none, none, none, some true⟩, ⟨.frontwall, some .fluidSolid, some .transmission, none, some false, some true⟩, ⟨.backwall, some .solidFluid, some .reflection, some .couplant, some false, some false⟩, ⟨.grid, none, none, none, some true, none⟩], [.couplant, .block, .block], ['L', 'T', 'T']⟩, ['T', 'T']⟩,
  ⟨.immersion, ['L', 'L', 'L'], ['L'], ⟨['L', 'L', 'L'], [⟨.probe, none, none, none, none, some true⟩, ⟨.frontwall, some .fluidSolid, some .transmission, none, some false, some true⟩, ⟨.backwall, some .solidFluid, some .reflection, some .couplant, some false, some false⟩, ⟨.frontwall, some .solidFluid, some .reflection, some .couplant, some true, some true⟩, ⟨.grid, none, none, none, some true, none⟩], [.couplant, .block, .block, .block], ['L', 'L', 'L', 'L']⟩, ⟨['L'], [⟨.probe, none, none, none, none, some true⟩, ⟨.frontwall, some .fluidSolid, some .transmission, none, some false, some true⟩, ⟨.grid, none, none, none, some true, none⟩], [.couplant, .block], ['L', 'L']⟩, ['L', 'L']⟩,
  ⟨.immersion, ['L', 'L', 'L'], ['T'], ⟨['L', 'L', 'L'], [⟨.probe, none, none, none, none, some true⟩, ⟨.frontwall, some .fluidSolid, some .transmission, none, some false, some true⟩, ⟨.backwall, some .solidFluid, some .reflection, some .couplant, some false, some false⟩, ⟨.frontwall, some .solidFluid, some .reflection, some .couplant, some true, some true⟩, ⟨.grid, none, none, none, some true, none⟩], [.couplant, .block, .block, .block], ['L', 'L', 'L', 'L']⟩, ⟨['T'], [⟨.probe, none, none, none, none, some true⟩, ⟨.frontwall, some .fluidSolid, some .transmission, none, some false, some true⟩, ⟨.grid, none, none, none, some true, none⟩], [.couplant, .block], ['L', 'T']⟩, ['L', 'T']⟩,
  ⟨.immersion, ['L', 'L', 'T'], ['L'], ⟨['L', 'L', 'T'], [⟨.probe, none, none, none, none, some true⟩, ⟨.frontwall, some .fluidSolid, some .transmission, none, some false, some true⟩, ⟨.backwall, some .solidFluid, some .reflection, some .couplant, some false, some false⟩, ⟨.frontwall, some .solidFluid, some .reflection, some .couplant, some true, some true⟩, ⟨.grid, none, none, none, some true, none⟩], [.couplant, .block, .block, .block], ['L', 'L', 'L', 'T']⟩, ⟨['L'], [⟨.probe, none, none, none, none, some true⟩, ⟨.frontwall, some .fluidSolid, some .transmission, none, some false, some true⟩, ⟨.grid, none, none, none, some true, none⟩], [.couplant, .block], ['L', 'L']⟩, ['T', 'L']⟩,
  ⟨.immersion, ['L', 'L', 'T'], ['T'], ⟨['L', 'L', 'T'], [⟨.probe, none, none, none, none, some true⟩, ⟨.frontwall, some .fluidSolid, some .transmission, none, some false, some true⟩, ⟨.backwall, some .solidFluid, some .reflection, some .couplant, some false, some false⟩, ⟨.frontwall, some .solidFluid, some .reflection, some .couplant, some true, some true⟩, ⟨.grid, none, none, none, some true, none⟩], [.couplant, .block, .block, .block], ['L', 'L', 'L', 'T']⟩, ⟨['T'], [⟨.probe, none, none, none, none, some true⟩, ⟨.frontwall, some .fluidSolid, some .transmission, none, some false, some true⟩, ⟨.grid, none, none, none, some true, none⟩], [.couplant, .block], ['L', 'T']⟩, ['T', 'T']⟩
]

def table1 : List ViewEntry := [
  ⟨.immersion, ['L', 'T', 'L'], ['L'], ⟨['L', 'T', 'L'], [⟨.probe, none, none, none, none, some true⟩, ⟨.frontwall, some .fluidSolid, some .transmission, none, some false, some true⟩, ⟨.backwall, some .solidFluid, some .reflection, some .couplant, some false, some false⟩, ⟨.frontwall, some .solidFluid, some .reflection, some .couplant, some true, some true⟩, ⟨.grid, none, none, none, some true, none⟩], [.couplant, .block, .block, .block], ['L', 'L', 'T', 'L']⟩, ⟨['L'], [⟨.probe, none, none, none, none, some true⟩, ⟨.frontwall, some .fluidSolid, some .transmission, none, some false, some true⟩, ⟨.grid, none, none, none, some true, none⟩], [.couplant, .block], ['L', 'L']⟩, ['L', 'L']⟩,
  ⟨.immersion, ['L', 'T', 'L'], ['T'], ⟨['L', 'T', 'L'], [⟨.probe, none, none, none, none, some true⟩, ⟨.frontwall, some .fluidSolid, some .transmission, none, some false, some true⟩, ⟨.backwall, some .solidFluid, some .reflection, some .couplant, some false, some false⟩, ⟨.frontwall, some .solidFluid, some .reflection, some .couplant, some true, some true⟩, ⟨.grid, none, none, none, some true, none⟩], [.couplant, .block, .block, .block], ['L', 'L', 'T', 'L']⟩, ⟨['T'], [⟨.probe, none, none, none, none, some true⟩, ⟨.frontwall, some .fluidSolid, some .transmission, none, some false, some true⟩, ⟨.grid, none, none, none, some true, none⟩], [.couplant, .block], ['L', 'T']⟩, ['L', 'T']⟩,
  ⟨.immersion, ['L', 'T', 'T'], ['L'], ⟨['L', 'T', 'T'], [⟨.probe, none, none, none, none, some true⟩, ⟨.frontwall, some .fluidSolid, some .transmission, none, some false, some true⟩, ⟨.backwall, some .solidFluid, some .reflection, some .couplant, some false, some false⟩, ⟨.frontwall, some .solidFluid, some .reflection, some .couplant, some true, some true⟩, ⟨.grid, none, none, none, some true, none⟩], [.couplant, .block, .block, .block], ['L', 'L', 'T', 'T']⟩, ⟨['L'], [⟨.probe, none, none, none, none, some true⟩, ⟨.frontwall, some .fluidSolid, some .transmission, none, some false, some true⟩, ⟨.grid, none, none, none, some true, none⟩], [.couplant, .block], ['L', 'L']⟩, ['T', 'L']⟩,
  ⟨.immersion, ['L', 'T', 'T'], ['T'], ⟨['L', 'T', 'T'], [⟨.probe, none, none, none, none, some true⟩, ⟨.frontwall, some .fluidSolid, some .transmission, none, some false, some true⟩, ⟨.backwall, some .solidFluid, some .reflection, some .couplant, some false, some false⟩, ⟨.frontwall, some .solidFluid, some .reflection, some .couplant, some true, some true⟩, ⟨.grid, none, none, none, some true, none⟩], [.couplant, .block, .block, .block], ['L', 'L', 'T', 'T']⟩, ⟨['T'], [⟨.probe, none, none, none, none, some true⟩, ⟨.frontwall, some .fluidSolid, some .transmission, none, some false, some true⟩, ⟨.grid, none, none, none, some true, none⟩], [.couplant, .block], ['L', 'T']⟩, ['T', 'T']⟩,
  ⟨.immersion, ['T', 'L', 'L'], ['L'], ⟨['T', 'L', 'L'], [⟨.probe, none, none, none, none, some true⟩, ⟨.frontwall, some .fluidSolid, some .transmission, none, some false, some true⟩, ⟨.backwall, some .solidFluid, some .reflection, some .couplant, some false, some false⟩, ⟨.frontwall, some .solidFluid, some .reflection, some .couplant, some true, some true⟩, ⟨.grid, none, none, none, some true, none⟩], [.couplant, .block, .block, .block], ['L', 'T', 'L', 'L']⟩, ⟨['L'], [⟨.probe, none, none, none, none, some true⟩, ⟨.frontwall, some .fluidSolid, some .transmission, none, some false, some true⟩, ⟨.grid, none, none, none, some true, none⟩], [.couplant, .block], ['L', 'L']⟩, ['L', 'L']⟩,
  ⟨.immersion, ['T', 'L', 'L'], ['T'], ⟨['T', 'L', 'L'], [⟨.probe, none, none, none, none, some true⟩, ⟨.frontwall, some .fluidSolid, some .transmission, none, some false, some true⟩, ⟨.backwall, some .solidFluid, some .reflection, some .couplant, some false, some false⟩, ⟨.frontwall, some .solidFluid, some .reflection, some .couplant, some true, some true⟩, ⟨.grid, none, none, none, some true, none⟩], [.couplant, .block, .block, .block], ['L', 'T', 'L', 'L']⟩, ⟨['T'], [⟨.probe, none, none, none, none, some true⟩, ⟨.frontwall, some .fluidSolid, some .transmission, none, some false, some true⟩, ⟨.grid, none, none, none, some true, none⟩], [.couplant, .block], ['L', 'T']⟩, ['L', 'T']⟩,
  ⟨.immersion, ['T', 'L', 'T'], ['L'], ⟨['T', 'L', 'T'], [⟨.probe, none, none, none, none, some true⟩, ⟨.frontwall, some .fluidSolid, some .transmission, none, some false, some true⟩, ⟨.backwall, some .solidFluid, some .reflection, some .couplant, some false, some false⟩, ⟨.frontwall, some .solidFluid, some .reflection, some .couplant, some true, some true⟩, ⟨.grid, none, none, none, some true, none⟩], [.couplant, .block, .block, .block], ['L', 'T', 'L', 'T']⟩, ⟨['L'], [⟨.probe, none, none, none, none, some true⟩, ⟨.frontwall, some .fluidSolid, some .transmission, none, some false, some true⟩, ⟨.grid, none, none, none, some true, none⟩], [.couplant, .block], ['L', 'L']⟩, ['T', 'L']⟩,
  ⟨.immersion, ['T', 'L', 'T'], ['T'], ⟨['T', 'L', 'T'], [⟨.probe, none, none, none, none, some true⟩, ⟨.frontwall, some .fluidSolid, some .transmission, none, some false, some true⟩, ⟨.backwall, some .solidFluid, some .reflection, some .couplant, some false, some false⟩, ⟨.frontwall, some .solidFluid, some .reflection, some .couplant, some true, some true⟩, ⟨.grid, none, none, none, some true, none⟩], [.couplant, .block, .block, .block], ['L', 'T', 'L', 'T']⟩, ⟨['T'], [⟨.probe, none, none, none, none, some true⟩, ⟨.frontwall, some .fluidSolid, some .transmission, none, some false, some true⟩, ⟨.grid, none, none, none, some true, none⟩], [.couplant, .block], ['L', 'T']⟩, ['T', 'T']⟩,
  ⟨.immersion, ['T', 'T', 'L'], ['L'], ⟨['T', 'T', 'L'], [⟨.probe, none, none, none, none, some true⟩, ⟨.frontwall, some .fluidSolid, some .transmission, none, some false, some true⟩, ⟨.backwall, some .solidFluid, some .reflection, some .couplant, some false, some false⟩, ⟨.frontwall, some .solidFluid, some .reflection, some .couplant, some true, some true⟩, ⟨.grid, none, none, none, some true, none⟩], [.couplant, .block, .block, .block], ['L', 'T', 'T', 'L']⟩, ⟨['L'], [⟨.probe, none, none, none, none, some true⟩, ⟨.frontwall, some .fluidSolid, some .transmission, none, some false, some true⟩, ⟨.grid, none, none, none, some true, none⟩], [.couplant, .block], ['L', 'L']⟩, ['L', 'L']⟩,
  ⟨.immersion, ['T', 'T', 'L'], ['T'], ⟨['T', 'T', 'L'], [⟨.probe, none, none, none, none, some true⟩, ⟨.frontwall, some .fluidSolid, some .transmission, none, some false, some true⟩, ⟨.backwall, some .solidFluid, some .reflection, some .couplant, some false, some false⟩, ⟨.frontwall, some .solidFluid, some .reflection, some .couplant, some true, some true⟩, ⟨.grid, none, none, none, some true, none⟩], [.couplant, .block, .block, .block], ['L', 'T', 'T', 'L']⟩, ⟨['T'], [⟨.probe, none, none, none, none, some true⟩, ⟨.frontwall, some .fluidSolid, some .transmission, none, some false, some true⟩, ⟨.grid, none, none, none, some true, none⟩], [.couplant, .block], ['L', 'T']⟩, ['L', 'T']⟩,
  ⟨.immersion, ['T', 'T', 'T'], ['L'], ⟨['T', 'T', 'T'], [⟨.probe, none, none, none, none, some true⟩, ⟨.frontwall, some .fluidSolid, some .transmission, none, some false, some true⟩, ⟨.backwall, some .solidFluid, some .reflection, some .couplant, some false, some false⟩, ⟨.frontwall, some .solidFluid, some .reflection, some .couplant, some true, some true⟩, ⟨.grid, none, none, none, some true, none⟩], [.couplant, .block, .block, .block], ['L', 'T', 'T', 'T']⟩, ⟨['L'], [⟨.probe, none, none, none, none, some true⟩, ⟨.frontwall, some .fluidSolid, some .transmission, none, some false, some true⟩, ⟨.grid, none, none, none, some true, none⟩], [.couplant, .block], ['L', 'L']⟩, ['T', 'L']⟩,
  ⟨.immersion, ['T', 'T', 'T'], ['T'], ⟨['T', 'T', 'T'], [⟨.probe, none, none, none, none, some true⟩, ⟨.frontwall, some .fluidSolid, some .transmission, none, some false, some true⟩, ⟨.backwall, some .solidFluid, some .reflection, some .couplant, some false, some false⟩, ⟨.frontwall, some .solidFluid, some .reflection, some .couplant, some true, some true⟩, ⟨.grid, none, none, none, some true, none⟩], [.couplant, .block, .block, .block], ['L', 'T', 'T', 'T']⟩, ⟨['T'], [⟨.probe, none, none, none, none, some true⟩, ⟨.frontwall, some .fluidSolid, some .transmission, none, some false, some true⟩, ⟨.grid, none, none, none, some true, none⟩], [.couplant, .block], ['L', 'T']⟩, ['T', 'T']⟩,
  ⟨.immersion, ['L'], ['L', 'L', 'L'], ⟨['L'], [⟨.probe, none, none, none, none, some true⟩, ⟨.frontwall, some .fluidSolid, some .transmission, none, some false, some true⟩, ⟨.grid, none, none, none, some true, none⟩], [.couplant, .block], ['L', 'L']⟩, ⟨['L', 'L', 'L'], [⟨.probe, none, none, none, none, some true⟩, ⟨.frontwall, some .fluidSolid, some .transmission, none, some false, some true⟩, ⟨.backwall, some .solidFluid, some .reflection, some .couplant, some false, some false⟩, ⟨.frontwall, some .solidFluid, some .reflection, some .couplant, some true, some true⟩, ⟨.grid, none, none, none, some true, none⟩], [.couplant, .block, .block, .block], ['L', 'L', 'L', 'L']⟩, ['L', 'L']⟩,
  ⟨.immersion, ['L'], ['L', 'L', 'T'], ⟨['L'], [⟨.probe, none, none, none, none, some true⟩, ⟨.frontwall, some .fluidSolid, some .transmission, none, some false, some true⟩, ⟨.grid, none, none, none, some true, none⟩], [.couplant, .block], ['L', 'L']⟩, ⟨['T', 'L', 'L'], [⟨.probe, none, none, none, none, some true⟩, ⟨.frontwall, some .fluidSolid, some .transmission, none, some false, some true⟩, ⟨.backwall, some .solidFluid, some .reflection, some .couplant, some false, some false⟩, ⟨.frontwall, some .solidFluid, some .reflection, some .couplant, some true, some true⟩, ⟨.grid, none, none, none, some true, none⟩], [.couplant, .block, .block, .block], ['L', 'T', 'L', 'L']⟩, ['L', 'L']⟩,
  ⟨.immersion, ['L'], ['L', 'T', 'L'], ⟨['L'], [⟨.probe, none, none, none, none, some true⟩, ⟨.frontwall, some .fluidSolid, some .transmission, none, some false, some true⟩, ⟨.grid, none, none, none, some true, none⟩], [.couplant, .block], ['L', 'L']⟩, ⟨['L', 'T', 'L'], [⟨.probe, none, none, none, none, some true⟩, ⟨.frontwall, some .fluidSolid, some .transmission, none, some false, some true⟩, ⟨.backwall, some .solidFluid, some .reflection, some .couplant, some false, some false⟩, ⟨.frontwall, some .solidFluid, some .reflection, some .couplant, some true, some true⟩, ⟨.grid, none, none, none, some true, none⟩], [.couplant, .block, .block, .block], ['L', 'L', 'T', 'L']⟩, ['L', 'L']⟩,
  ⟨.immersion, ['L'], ['L', 'T', 'T'], ⟨['L'], [⟨.probe, none, none, none, none, some true⟩, ⟨.frontwall, some .fluidSolid, some .transmission, none, some false, some true⟩, ⟨.grid, none, none, none, some true, none⟩], [.couplant, .block], ['L', 'L']⟩, ⟨['T', 'T', 'L'], [⟨.probe, none, none, none, none, some true⟩, ⟨.frontwall, some .fluidSolid, some .transmission, none, some false, some true⟩, ⟨.backwall, some .solidFluid, some .reflection, some .couplant, some false, some false⟩, ⟨.frontwall, some .solidFluid, some .reflection, some .couplant, some true, some true⟩, ⟨.grid, none, none, none, some true, none⟩], [.couplant, .block, .block, .block], ['L', 'T', 'T', 'L']⟩, ['L', 'L']⟩,
  ⟨.immersion, ['L'], ['T', 'L', 'L'], ⟨['L'], [⟨.probe, none, none, none, none, some true⟩, ⟨.frontwall, some .fluidSolid, some .transmission, none, some false, some true⟩, ⟨.grid, none, none, none, some true, none⟩], [.couplant, .block], ['L', 'L']⟩, ⟨['L', 'L', 'T'], [⟨.probe, none, none, none, none, some true⟩, ⟨.frontwall, some .fluidSolid, some .transmission, none, some false, some true⟩, ⟨.backwall, some .solidFluid, some .reflection, some .couplant, some false, some false⟩, ⟨.frontwall, some .solidFluid, some .reflection, some .couplant, some true, some true⟩, ⟨.grid, none, none, none, some true, none⟩], [.couplant, .block, .block, .block], ['L', 'L', 'L', 'T']⟩, ['L', 'T']⟩,
  ⟨.immersion, ['L'], ['T', 'L', 'T'], ⟨['L'], [⟨.probe, none, none, none, none, some true⟩, ⟨.frontwall, some .fluidSolid, some .transmission, none, some false, some true⟩, ⟨.grid, none, none, none, some true, none⟩], [.couplant, .block], ['L', 'L']⟩, ⟨['T', 'L', 'T'], [⟨.probe, none, none, none, none, some true⟩, ⟨.frontwall, some .fluidSolid, some .transmission, none, some false, some true⟩, ⟨.backwall, some .solidFluid, some .reflection, some .couplant, some false, some false⟩, ⟨.frontwall, some .solidFluid, some .reflection, some .couplant, some true, some true⟩, ⟨.grid, none, none, none, some true, none⟩], [.couplant, .block, .block, .block], ['L', 'T', 'L', 'T']⟩, ['L', 'T']⟩,
  ⟨.immersion, ['L'], ['T', 'T', 'L'], ⟨['L'], [⟨.probe, none, none, none, none, some true⟩, ⟨.frontwall, some .fluidSolid, some .transmission, none, some false, some true⟩, ⟨.grid, none, none, none, some true, none⟩], [.couplant, .block], ['L', 'L']⟩, ⟨['L', 'T', 'T'], [⟨.probe, none, none, none, none, some true⟩, ⟨.frontwall, some .fluidSolid, some .transmission, none, some false, some true⟩, ⟨.backwall, some .solidFluid, some .reflection, some .couplant, some false, some false⟩, ⟨.frontwall, some .solidFluid, some .reflection, some .couplant, some true, some true⟩, ⟨.grid, none, none, none, some true, none⟩], [.couplant, .block, .block, .block], ['L', 'L', 'T', 'T']⟩, ['L', 'T']⟩,
  ⟨.immersion, ['L'], ['T', 'T', 'T'], ⟨['L'], [⟨.probe, none, none, none, none, some true⟩, ⟨.frontwall, some .fluidSolid, some .transmission, none, some false, some true⟩, ⟨.grid, none, none, none, some true, none⟩], [.couplant, .block], ['L', 'L']⟩, ⟨['T', 'T', 'T'], [⟨.probe, none, none, none, none, some true⟩, ⟨.frontwall, some .fluidSolid, some .transmission, none, some false, some true⟩, ⟨.backwall, some .solidFluid, some .reflection, some .couplant, some false, some false⟩, ⟨.frontwall, some .solidFluid, some .reflection, some .couplant, some true, some true⟩, ⟨.grid, none, none, none, some true, none⟩], [.couplant, .block, .block, .block], ['L', 'T', 'T', 'T']⟩, ['L', 'T']⟩,
  ⟨.immersion, ['T'], ['L', 'L', 'L'], ⟨['T'], [⟨.probe, none, none, none, none, some true⟩, ⟨.frontwall, some .fluidSolid, some .transmission, none, some false, some true⟩, ⟨.grid, none, none, none, some true, none⟩], [.couplant, .block], ['L', 'T']⟩, ⟨['L', 'L', 'L'], [⟨.probe, none, none, none, none, some true⟩, ⟨.frontwall, some .fluidSolid, some .transmission, none, some false, some true⟩, ⟨.backwall, some .solidFluid, some .reflection, some .couplant, some false, some false⟩, ⟨.frontwall, some .solidFluid, some .reflection, some .couplant, some true, some true⟩, ⟨.grid, none, none, none, some true, none⟩], [.couplant, .block, .block, .block], ['L', 'L', 'L', 'L']⟩, ['T', 'L']⟩,
  ⟨.immersion, ['T'], ['L', 'L', 'T'], ⟨['T'], [⟨.probe, none, none, none, none, some true⟩, ⟨.frontwall, some .fluidSolid, some .transmission, none, some false, some true⟩, ⟨.grid, none, none, none, some true, none⟩], [.couplant, .block], ['L', 'T']⟩, ⟨['T', 'L', 'L'], [⟨.probe, none, none, none, none, some true⟩, ⟨.frontwall, some .fluidSolid, some .transmission, none, some false, some true⟩, ⟨.backwall, some .solidFluid, some .reflection, some .couplant, some false, some false⟩, ⟨.frontwall, some .solidFluid, some .reflection, some .couplant, some true, some true⟩, ⟨.grid, none, none, none, some true, none⟩], [.couplant, .block, .block, .block], ['L', 'T', 'L', 'L']⟩, ['T', 'L']⟩,
  ⟨.immersion, ['T'], ['L', 'T', 'L'], ⟨['T'], [⟨.probe, none, none, none, none, some true⟩, ⟨.frontwall, some .fluidSolid, some .transmission, none, some false, some true⟩, ⟨.grid, none, none, none, some true, none⟩], [.couplant, .block], ['L', 'T']⟩, ⟨['L', 'T', 'L'], [⟨.probe, none, none, none, none, some true⟩, ⟨.frontwall, some .fluidSolid, some .transmission, none, some false, some true⟩, ⟨.backwall, some .solidFluid, some .reflection, some .couplant, some false, some false⟩, ⟨.frontwall, some .solidFluid, some .reflection, some .couplant, some true, some true⟩, ⟨.grid, none, none, none, some true, none⟩], [.couplant, .block, .block, .block], ['L', 'L', 'T', 'L']⟩, ['T', 'L']⟩,
  ⟨.immersion, ['T'], ['L', 'T', 'T'], ⟨['T'], [⟨.probe, none, none, none, none, some true⟩, ⟨.frontwall, some .fluidSolid, some .transmission, none, some false, some true⟩, ⟨.grid, none, none, none, some true, none⟩], [.couplant, .block], ['L', 'T']⟩, ⟨['T', 'T', 'L'], [⟨.probe, none, none, none, none, some true⟩, ⟨.frontwall, some .fluidSolid, some .transmission, none, some false, some true⟩, ⟨.backwall, some .solidFluid, some .reflection, some .couplant, some false, some false⟩, ⟨.frontwall, some .solidFluid, some .reflection, some .couplant, some true, some true⟩, ⟨.grid, none, none, none, some true, none⟩], [.couplant, .block, .block, .block], ['L', 'T', 'T', 'L']⟩, ['T', 'L']⟩,
  ⟨.immersion, ['T'], ['T', 'L', 'L'], ⟨['T'], [⟨.probe, none, none, none, none, some true⟩, ⟨.frontwall, some .fluidSolid, some .transmission, none, some false, some true⟩, ⟨.grid, none, none, none, some true, none⟩], [.couplant, .block], ['L', 'T']⟩, ⟨['L', 'L', 'T'], [⟨.probe, none, none, none, none, some true⟩, ⟨.frontwall, some .fluidSolid, some .transmission, none, some false, some true⟩, ⟨.backwall, some .solidFluid, some .reflection, some .couplant, some false, some false⟩, ⟨.frontwall, some .solidFluid, some .reflection, some .couplant, some true, some true⟩, ⟨.grid, none, none, none, some true, none⟩], [.couplant, .block, .block, .block], ['L', 'L', 'L', 'T']⟩, ['T', 'T']⟩,
  ⟨.immersion, ['T'], ['T', 'L', 'T'], ⟨['T'], [⟨.probe, none, none, none, none, some true⟩, ⟨.frontwall, some .fluidSolid, some .transmission, none, some false, some true⟩, ⟨.grid, none, none, none, some true, none⟩], [.couplant, .block], ['L', 'T']⟩, ⟨['T', 'L', 'T'], [⟨.probe, none, none, none, none, some true⟩, ⟨.frontwall, some .fluidSolid, some .transmission, none, some false, some true⟩, ⟨.backwall, some .solidFluid, some .reflection, some .couplant, some false, some false⟩, ⟨.frontwall, some .solidFluid, some .reflection, some .couplant, some true, some true⟩, ⟨.grid, none, none, none, some true, none⟩], [.couplant, .block, .block, .block], ['L', 'T', 'L', 'T']⟩, ['T', 'T']⟩,
  ⟨.immersion, ['T'], ['T', 'T', 'L'], ⟨['T'], [⟨.probe, none, none, none, none, some true⟩, ⟨.frontwall, some .fluidSolid, some .transmission, none, some false, some true⟩, ⟨.grid, none, none, none, some true, none⟩], [.couplant, .block], ['L', 'T']⟩, ⟨['L', 'T', 'T'], [⟨.probe, none, none, none, none, some true⟩, ⟨.frontwall, some .fluidSolid, some .transmission, none, some false, some true⟩, ⟨.backwall, some .solidFluid, some .reflection, some .couplant, some false, some false⟩, ⟨.frontwall, some .solidFluid, some .reflection, some .couplant, some true, some true⟩, ⟨.grid, none, none, none, some true, none⟩], [.couplant, .block, .block, .block], ['L', 'L', 'T', 'T']⟩, ['T', 'T']⟩,
  ⟨.immersion, ['T'], ['T', 'T', 'T'], ⟨['T'], [⟨.probe, none, none, none, none, some true⟩, ⟨.frontwall, some .fluidSolid, some .transmission, none, some false, some true⟩, ⟨.grid, none, none, none, some true, none⟩], [.couplant, .block], ['L', 'T']⟩, ⟨['T', 'T', 'T'], [⟨.probe, none, none, none, none, some true⟩, ⟨.frontwall, some .fluidSolid, some .transmission, none, some false, some true⟩, ⟨.backwall, some .solidFluid, some .reflection, some .couplant, some false, some false⟩, ⟨.frontwall, some .solidFluid, some .reflection, some .couplant, some true, some true⟩, ⟨.grid, none, none, none, some true, none⟩], [.couplant, .block, .block, .block], ['L', 'T', 'T', 'T']⟩, ['T', 'T']⟩,
  ⟨.immersion, ['L', 'L', 'L'], ['L', 'L'], ⟨['L', 'L', 'L'], [⟨.probe, none, none, none, none, some true⟩, ⟨.frontwall, some .fluidSolid, some .transmission, none, some false, some true⟩, ⟨.backwall, some .solidFluid, some .reflection, some .couplant, some false, some false⟩, ⟨.frontwall, some .solidFluid, some .reflection, some .couplant, some true, some true⟩, ⟨.grid, none, none, none, some true, none⟩], [.couplant, .block, .block, .block], ['L', 'L', 'L', 'L']⟩, ⟨['L', 'L'], [⟨.probe, none, none, none, none, some true⟩, ⟨.frontwall, some .fluidSolid, some .transmission, none, some false, some true⟩, ⟨.backwall, some .solidFluid, some .reflection, some .couplant, some false, some false⟩, ⟨.grid, none, none, none, some true, none⟩], [.couplant, .block, .block], ['L', 'L', 'L']⟩, ['L', 'L']⟩,
  ⟨.immersion, ['L', 'L', 'L'], ['L', 'T'], ⟨['L', 'L', 'L'], [⟨.probe, none, none, none, none, some true⟩, ⟨.frontwall, some .fluidSolid, some .transmission, none, some false, some true⟩, ⟨.backwall, some .solidFluid, some .reflection, some .couplant, some false, some false⟩, ⟨.frontwall, some .solidFluid, some .reflection, some .couplant, some true, some true⟩, ⟨.grid, none, none, none, some true, none⟩], [.couplant, .block, .block, .block], ['L', 'L', 'L', 'L']⟩, ⟨['T', 'L'], [⟨.probe, none, none, none, none, some true⟩, ⟨.frontwall, some .fluidSolid, some .transmission, none, some false, some true⟩, ⟨.backwall, some .solidFluid, some .reflection, some .couplant, some false, some false⟩, ⟨.grid, none, none, none, some true, none⟩], [.couplant, .block, .block], ['L', 'T', 'L']⟩, ['L', 'L']⟩,
  ⟨.immersion, ['L', 'L', 'L'], ['T', 'L'], ⟨['L', 'L', 'L'], [⟨.probe, none, none, none, none, some true⟩, ⟨.frontwall, some .fluidSolid, some .transmission, none, some false, some true⟩, ⟨.backwall, some .solidFluid, some .reflection, some .couplant, some false, some false⟩, ⟨.frontwall, some .solidFluid, some .reflection, some .couplant, some true, some true⟩, ⟨.grid, none, none, none, some true, none⟩], [.couplant, .block, .block, .block], ['L', 'L', 'L', 'L']⟩, ⟨['L', 'T'], [⟨.probe, none, none, none, none, some true⟩, ⟨.frontwall, some .fluidSolid, some .transmission, none, some false, some true⟩, ⟨.backwall, some .solidFluid, some .reflection, some .couplant, some false, some false⟩, ⟨.grid, none, none, none, some true, none⟩], [.couplant, .block, .block], ['L', 'L', 'T']⟩, ['L', 'T']⟩,
  ⟨.immersion, ['L', 'L', 'L'], ['T', 'T'], ⟨['L', 'L', 'L'], [⟨.probe, none, none, none, none, some true⟩, ⟨.frontwall, some .fluidSolid, some .transmission, none, some false, some true⟩, ⟨.backwall, some .solidFluid, some .reflection, some .couplant, some false, some false⟩, ⟨.frontwall, some .solidFluid, some .reflection, some .couplant, some true, some true⟩, ⟨.grid, none, none, none, some true, none⟩], [.couplant, .block, .block, .block], ['L', 'L', 'L', 'L']⟩, ⟨['T', 'T'], [⟨.probe, none, none, none, none, some true⟩, ⟨.frontwall, some .fluidSolid, some .transmission, none, some false, some true⟩, ⟨.backwall, some .solidFluid, some .reflection, some .couplant, some false, some false⟩, ⟨.grid, none, none, none, some true, none⟩], [.couplant, .block, .block], ['L', 'T', 'T']⟩, ['L', 'T']⟩,
  ⟨.immersion, ['L', 'L', 'T'], ['L', 'L'], ⟨['L', 'L', 'T'], [⟨.probe, none, none, none, none, some true⟩, ⟨.frontwall, some .fluidSolid, some .transmission, none, some false, some true⟩, ⟨.backwall, some .solidFluid, some .reflection, some .couplant, some false, some false⟩, ⟨.frontwall, some .solidFluid, some .reflection, some .couplant, some true, some true⟩, ⟨.grid, none, none, none, some true, none⟩], [.couplant, .block, .block, .block], ['L', 'L', 'L', 'T']⟩, ⟨['L', 'L'], [⟨.probe, none, none, none, none, some true⟩, ⟨.frontwall, some .fluidSolid, some .transmission, none, some false, some true⟩, ⟨.backwall, some .solidFluid, some .reflection, some .couplant, some false, some false⟩, ⟨.grid, none, none, none, some true, none⟩], [.couplant, .block, .block], ['L', 'L', 'L']⟩, ['T', 'L']⟩,
  ⟨.immersion, ['L', 'L', 'T'], ['L', 'T'], ⟨['L', 'L', 'T'], [⟨.probe, none, none, none, none, some true⟩, ⟨.frontwall, some .fluidSolid, some .transmission, none, some false, some true⟩, ⟨.backwall, some .solidFluid, some .reflection, some .couplant, some false, some false⟩, ⟨.frontwall, some .solidFluid, some .reflection, some .couplant, some true, some true⟩, ⟨.grid, none, none, none, some true, none⟩], [.couplant, .block, .block, .block], ['L', 'L', 'L', 'T']⟩, ⟨['T', 'L'], [⟨.probe, none, none, none, none, some true⟩, ⟨.frontwall, some .fluidSolid, some .transmission, none, some false, some true⟩, ⟨.backwall, some .solidFluid, some .reflection, some .couplant, some false, some false⟩, ⟨.grid, none, none, none, some true, none⟩], [.couplant, .block, .block], ['L', 'T', 'L']⟩, ['T', 'L']⟩,
  ⟨.immersion, ['L', 'L', 'T'], ['T', 'L'], ⟨['L', 'L', 'T'], [⟨.probe, none, none, none, none, some true⟩, ⟨.frontwall, some .fluidSolid, some .transmission, none, some false, some true⟩, ⟨.backwall, some .solidFluid, some .reflection, some .couplant, some false, some false⟩, ⟨.frontwall, some .solidFluid, some .reflection, some .couplant, some true, some true⟩, ⟨.grid, none, none, none, some true, none⟩], [.couplant, .block, .block, .block], ['L', 'L', 'L', 'T']⟩, ⟨['L', 'T'], [⟨.probe, none, none, none, none, some true⟩, ⟨.frontwall, some .fluidSolid, some .transmission, none, some false, some true⟩, ⟨.backwall, some .solidFluid, some .reflection, some .couplant, some false, some false⟩, ⟨.grid, none, none, none, some true, none⟩], [.couplant, .block, .block], ['L', 'L', 'T']⟩, ['T', 'T']⟩,
  ⟨.immersion, ['L', 'L', 'T'], ['T', 'T'], ⟨['L', 'L', 'T'], [⟨.probe, none, none, none, none, some true⟩, ⟨.frontwall, some .fluidSolid, some .transmission, none, some false, some true⟩, ⟨.backwall, some .solidFluid, some .reflection, some .couplant, some false, some false⟩, ⟨.frontwall, some .solidFluid, some .reflection, some .couplant, some true, some true⟩, ⟨.grid, none, none, none, some true, none⟩], [.couplant, .block, .block, .block], ['L', 'L', 'L', 'T']⟩, ⟨['T', 'T'], [⟨.probe, none, none, none, none, some true⟩, ⟨.frontwall, some .fluidSolid, some .transmission, none, some false, some true⟩, ⟨.backwall, some .solidFluid, some .reflection, some .couplant, some false, some false⟩, ⟨.grid, none, none, none, some true, none⟩], [.couplant, .block, .block], ['L', 'T', 'T']⟩, ['T', 'T']⟩,
  ⟨.immersion, ['L', 'T', 'L'], ['L', 'L'], ⟨['L', 'T', 'L'], [⟨.probe, none, none, none, none, some true⟩, ⟨.frontwall, some .fluidSolid, some .transmission, none, some false, some true⟩, ⟨.backwall, some .solidFluid, some .reflection, some .couplant, some false, some false⟩, ⟨.frontwall, some .solidFluid, some .reflection, some .couplant, some true, some true⟩, ⟨.grid, none, none, none, some true, none⟩], [.couplant, .block, .block, .block], ['L', 'L', 'T', 'L']⟩, ⟨['L', 'L'], [⟨.probe, none, none, none, none, some true⟩, ⟨.frontwall, some .fluidSolid, some .transmission, none, some false, some true⟩, ⟨.backwall, some .solidFluid, some .reflection, some .couplant, some false, some false⟩, ⟨.grid, none, none, none, some true, none⟩], [.couplant, .block, .block], ['L', 'L', 'L']⟩, ['L', 'L']⟩,
  ⟨.immersion, ['L', 'T', 'L'], ['L', 'T'], ⟨['L', 'T', 'L'], [⟨.probe, none, none, none, none, some true⟩, ⟨.frontwall, some .fluidSolid, some .transmission, none, some false, some true⟩, ⟨.backwall, some .solidFluid, some .reflection, some .couplant, some false, some false⟩, ⟨.frontwall, some .solidFluid, some .reflection, some .couplant, some true, some true⟩, ⟨.grid, none, none, none, some true, none⟩], [.couplant, .block, .block, .block], ['L', 'L', 'T', 'L']⟩, ⟨['T', 'L'], [⟨.probe, none, none, none, none, some true⟩, ⟨.frontwall, some .fluidSolid, some .transmission, none, some false, some true⟩, ⟨.backwall, some .solidFluid, some .reflection, some .couplant, some false, some false⟩, ⟨.grid, none, none, none, some true, none⟩], [.couplant, .block, .block], ['L', 'T', 'L']⟩, ['L', 'L']⟩,
  ⟨.immersion, ['L', 'T', 'L'], ['T', 'L'], ⟨['L', 'T', 'L'], [⟨.probe, none, none, none, none, some true⟩, ⟨.frontwall, some .fluidSolid, some .transmission, none, some false, some true⟩, ⟨.backwall, some .solidFluid, some .reflection, some .couplant, some false, some false⟩, ⟨.frontwall, some .solidFluid, some .reflection, some .couplant, some true, some true⟩, ⟨.grid, none, none, none, some true, none⟩], [.couplant, .block, .block, .block], ['L', 'L', 'T', 'L']⟩, ⟨['L', 'T'], [⟨.probe, none, none, none, none, some true⟩, ⟨.frontwall, some .fluidSolid, some .transmission, none, some false, some true⟩, ⟨.backwall, some .solidFluid, some .reflection, some .couplant, some false, some false⟩, ⟨.grid, none, none, none, some true, none⟩], [.couplant, .block, .block], ['L', 'L', 'T']⟩, ['L', 'T']⟩,
  ⟨.immersion, ['L', 'T', 'L'], ['T', 'T'], ⟨['L', 'T', 'L'], [⟨.probe, none, none, none, none, some true⟩, ⟨.frontwall, some .fluidSolid, some .transmission, none, some false, some true⟩, ⟨.backwall, some .solidFluid, some .reflection, some .couplant, some false, some false⟩, ⟨.frontwall, some .solidFluid, some .reflection, some .couplant, some true, some true⟩, ⟨.grid, none, none, none, some true, none⟩], [.couplant, .block, .block, .block], ['L', 'L', 'T', 'L']⟩, ⟨['T', 'T'], [⟨.probe, none, none, none, none, some true⟩, ⟨.frontwall, some .fluidSolid, some .transmission, none, some false, some true⟩, ⟨.backwall, some .solidFluid, some .reflection, some .couplant, some false, some false⟩, ⟨.grid, none, none, none, some true, none⟩], [.couplant, .block, .block], ['L', 'T', 'T']⟩, ['L', 'T']⟩
]

def table2 : List ViewEntry := [
  ⟨.immersion, ['L', 'T', 'T'], ['L', 'L'], ⟨['L', 'T', 'T'], [⟨.probe, none, none, none, none, some true⟩, ⟨.frontwall, some .fluidSolid, some .transmission, none, some false, some true⟩, ⟨.backwall, some .solidFluid, some .reflection, some .couplant, some false, some false⟩, ⟨.frontwall, some .solidFluid, some .reflection, some .couplant, some true, some true⟩, ⟨.grid, none, none, none, some true, none⟩], [.couplant, .block, .block, .block], ['L', 'L', 'T', 'T']⟩, ⟨['L', 'L'], [⟨.probe, none, none, none, none, some true⟩, ⟨.frontwall, some .fluidSolid, some .transmission, none, some false, some true⟩, ⟨.backwall, some .solidFluid, some .reflection, some .couplant, some false, some false⟩, ⟨.grid, none, none, none, some true, none⟩], [.couplant, .block, .block], ['L', 'L', 'L']⟩, ['T', 'L']⟩,
  ⟨.immersion, ['L', 'T', 'T'], ['L', 'T'], ⟨['L', 'T', 'T'], [⟨.probe, none, none, none, none, some true⟩, ⟨.frontwall, some .fluidSolid, some .transmission, none, some false, some true⟩, ⟨.backwall, some .solidFluid, some .reflection, some .couplant, some false, some false⟩, ⟨.frontwall, some .solidFluid, some .reflection, some .couplant, some true, some true⟩, ⟨.grid, none, none, none, some true, none⟩], [.couplant, .block, .block, .block], ['L', 'L', 'T', 'T']⟩, ⟨['T', 'L'], [⟨.probe, none, none, none, none, some true⟩, ⟨.frontwall, some .fluidSolid, some .transmission, none, some false, some true⟩, ⟨.backwall, some .solidFluid, some .reflection, some .couplant, some false, some false⟩, ⟨.grid, none, none, none, some true, none⟩], [.couplant, .block, .block], ['L', 'T', 'L']⟩, ['T', 'L']⟩,
  ⟨.immersion, ['L', 'T', 'T'], ['T', 'L'], ⟨['L', 'T', 'T'], [⟨.probe, none, none, none, none, some true⟩, ⟨.frontwall, some .fluidSolid, some .transmission, none, some false, some true⟩, ⟨.backwall, some .solidFluid, some .reflection, some .couplant, some false, some false⟩, ⟨.frontwall, some .solidFluid, some .reflection, some .couplant, some true, some true⟩, ⟨.grid, none, none, none, some true, none⟩], [.couplant, .block, .block, .block], ['L', 'L', 'T', 'T']⟩, ⟨['L', 'T'], [⟨.probe, none, none, none, none, some true⟩, ⟨.frontwall, some .fluidSolid, some .transmission, none, some false, some true⟩, ⟨.backwall, some .solidFluid, some .reflection, some .couplant, some false, some false⟩, ⟨.grid, none, none, none, some true, none⟩], [.couplant, .block, .block], ['L', 'L', 'T']⟩, ['T', 'T']⟩,
  ⟨.immersion, ['L', 'T', 'T'], ['T', 'T'], ⟨['L', 'T', 'T'], [⟨.probe, none, none, none, none, some true⟩, ⟨.frontwall, some .fluidSolid, some .transmission, none, some false, some true⟩, ⟨.backwall, some .solidFluid, some .reflection, some .couplant, some false, some false⟩, ⟨.frontwall, some .solidFluid, some .reflection, some .couplant, some true, some true⟩, ⟨.grid, none, none, none, some true, none⟩], [.couplant, .block, .block, .block], ['L', 'L', 'T', 'T']⟩, ⟨['T', 'T'], [⟨.probe, none, none, none, none, some true⟩, ⟨.frontwall, some .fluidSolid, some .transmission, none, some false, some true⟩, ⟨.backwall, some .solidFluid, some .reflection, some .couplant, some false, some false⟩, ⟨.grid, none, none, none, some true, none⟩], [.couplant, .block, .block], ['L', 'T', 'T']⟩, ['T', 'T']⟩,
  ⟨.immersion, ['T', 'L', 'L'], ['L', 'L'], ⟨['T', 'L', 'L'], [⟨.probe, none, none, none, none, some true⟩, ⟨.frontwall, some .fluidSolid, some .transmission, none, some false, some true⟩, ⟨.backwall, some .solidFluid, some .reflection, some .couplant, some false, some false⟩, ⟨.frontwall, some .solidFluid, some .reflection, some .couplant, some true, some true⟩, ⟨.grid, none, none, none, some true, none⟩], [.couplant, .block, .block, .block], ['L', 'T', 'L', 'L']⟩, ⟨['L', 'L'], [⟨.probe, none, none, none, none, some true⟩, ⟨.frontwall, some .fluidSolid, some .transmission, none, some false, some true⟩, ⟨.backwall, some .solidFluid, some .reflection, some .couplant, some false, some false⟩, ⟨.grid, none, none, none, some true, none⟩], [.couplant, .block, .block], ['L', 'L', 'L']⟩, ['L', 'L']⟩,
  ⟨.immersion, ['T', 'L', 'L'], ['L', 'T'], ⟨['T', 'L', 'L'], [⟨.probe, none, none, none, none, some true⟩, ⟨.frontwall, some .fluidSolid, some .transmission, none, some false, some true⟩, ⟨.backwall, some .solidFluid, some .reflection, some .couplant, some false, some false⟩, ⟨.frontwall, some .solidFluid, some .reflection, some .couplant, some true, some true⟩, ⟨.grid, none, none, none, some true, none⟩], [.couplant, .block, .block, .block], ['L', 'T', 'L', 'L']⟩, ⟨['T', 'L'], [⟨.probe, none, none, none, none, some true⟩, ⟨.frontwall, some .fluidSolid, some .transmission, none, some false, some true⟩, ⟨.backwall, some .solidFluid, some .reflection, some .couplant, some false, some false⟩, ⟨.grid, none, none, none, some true, none⟩], [.couplant, .block, .block], ['L', 'T', 'L']⟩, ['L', 'L']⟩,
  ⟨.immersion, ['T', 'L', 'L'], ['T', 'L'], ⟨['T', 'L', 'L'], [⟨.probe, none, none, none, none, some true⟩, ⟨.frontwall, some .fluidSolid, some .transmission, none, some false, some true⟩, ⟨.backwall, some .solidFluid, some .reflection, some .couplant, some false, some false⟩, ⟨.frontwall, some .solidFluid, some .reflection, some .couplant, some true, some true⟩, ⟨.grid, none, none, none, some true, none⟩], [.couplant, .block, .block, .block], ['L', 'T', 'L', 'L']⟩, ⟨['L', 'T'], [⟨.probe, none, none, none, none, some true⟩, ⟨.frontwall, some .fluidSolid, some .transmission, none, some false, some true⟩, ⟨.backwall, some .solidFluid, some .reflection, some .couplant, some false, some false⟩, ⟨.grid, none, none, none, some true, none⟩], [.couplant, .block, .block], ['L', 'L', 'T']⟩, ['L', 'T']⟩,
  ⟨.immersion, ['T', 'L', 'L'], ['T', 'T'], ⟨['T', 'L', 'L'], [⟨.probe, none, none, none, none, some true⟩, ⟨.frontwall, some .fluidSolid, some .transmission, none, some false, some true⟩, ⟨.backwall, some .solidFluid, some .reflection, some .couplant, some false, some false⟩, ⟨.frontwall, some .solidFluid, some .reflection, some .couplant, some true, some true⟩, ⟨.grid, none, none, none, some true, none⟩], [.couplant, .block, .block, .block], ['L', 'T', 'L', 'L']⟩, ⟨['T', 'T'], [⟨.probe, none, none, none, none, some true⟩, ⟨.frontwall, some .fluidSolid, some .transmission, none, some false, some true⟩, ⟨.backwall, some .solidFluid, some .reflection, some .couplant, some false, some false⟩, ⟨.grid, none, none, none, some true, none⟩], [.couplant, .block, .block], ['L', 'T', 'T']⟩, ['L', 'T']⟩,
  ⟨.immersion, ['T', 'L', 'T'], ['L', 'L'], ⟨['T', 'L', 'T'], [⟨.probe, none, none, none, none, some true⟩, ⟨.frontwall, some .fluidSolid, some .transmission, none, some false, some true⟩, ⟨.backwall, some .solidFluid, some .reflection, some .couplant, some false, some false⟩, ⟨.frontwall, some .solidFluid, some .reflection, some .couplant, some true, some true⟩, ⟨.grid, none, none, none, some true, none⟩], [.couplant, .block, .block, .block], ['L', 'T', 'L', 'T']⟩, ⟨['L', 'L'], [⟨.probe, none, none, none, none, some true⟩, ⟨.frontwall, some .fluidSolid, some .transmission, none, some false, some true⟩, ⟨.backwall, some .solidFluid, some .reflection, some .couplant, some false, some false⟩, ⟨.grid, none, none, none, some true, none⟩], [.couplant, .block, .block], ['L', 'L', 'L']⟩, ['T', 'L']⟩,
  ⟨.immersion, ['T', 'L', 'T'], ['L', 'T'], ⟨['T', 'L', 'T'], [⟨.probe, none, none, none, none, some true⟩, ⟨.frontwall, some .fluidSolid, some .transmission, none, some false, some true⟩, ⟨.backwall, some .solidFluid, some .reflection, some .couplant, some false, some false⟩, ⟨.frontwall, some .solidFluid, some .reflection, some .couplant, some true, some true⟩, ⟨.grid, none, none, none, some true, none⟩], [.couplant, .block, .block, .block], ['L', 'T', 'L', 'T']⟩, ⟨['T', 'L'], [⟨.probe, none, none, none, none, some true⟩, ⟨.frontwall, some .fluidSolid, some .transmission, none, some false, some true⟩, ⟨.backwall, some .solidFluid, some .reflection, some .couplant, some false, some false⟩, ⟨.grid, none, none, none, some true, none⟩], [.couplant, .block, .block], ['L', 'T', 'L']⟩, ['T', 'L']⟩,
  ⟨.immersion, ['T', 'L', 'T'], ['T', 'L'], ⟨['T', 'L', 'T'], [⟨.probe, none, none, none, none, some true⟩, ⟨.frontwall, some .fluidSolid, some .transmission, none, some false, some true⟩, ⟨.backwall, some .solidFluid, some .reflection, some .couplant, some false, some false⟩, ⟨.frontwall, some .solidFluid, some .reflection, some .couplant, some true, some true⟩, ⟨.grid, none, none, none, some true, none⟩], [.couplant, .block, .block, .block], ['L', 'T', 'L', 'T']⟩, ⟨['L', 'T'], [⟨.probe, none, none, none, none, some true⟩, ⟨.frontwall, some .fluidSolid, some .transmission, none, some false, some true⟩, ⟨.backwall, some .solidFluid, some .reflection, some .couplant, some false, some false⟩, ⟨.grid, none, none, none, some true, none⟩], [.couplant, .block, .block], ['L', 'L', 'T']⟩, ['T', 'T']⟩,
  ⟨.immersion, ['T', 'L', 'T'], ['T', 'T'], ⟨['T', 'L', 'T'], [⟨.probe, none, none, none, none, some true⟩, ⟨.frontwall, some .fluidSolid, some .transmission, none, some false, some true⟩, ⟨.backwall, some .solidFluid, some .reflection, some .couplant, some false, some false⟩, ⟨.frontwall, some .solidFluid, some .reflection, some .couplant, some true, some true⟩, ⟨.grid, none, none, none, some true, none⟩], [.couplant, .block, .block, .block], ['L', 'T', 'L', 'T']⟩, ⟨['T', 'T'], [⟨.probe, none, none, none, none, some true⟩, ⟨.frontwall, some .fluidSolid, some .transmission, none, some false, some true⟩, ⟨.backwall, some .solidFluid, some .reflection, some .couplant, some false, some false⟩, ⟨.grid, none, none, none, some true, none⟩], [.couplant, .block, .block], ['L', 'T', 'T']⟩, ['T', 'T']⟩,
  ⟨.immersion, ['T', 'T', 'L'], ['L', 'L'], ⟨['T', 'T', 'L'], [⟨.probe, none, none, none, none, some true⟩, ⟨.frontwall, some .fluidSolid, some .transmission, none, some false, some true⟩, ⟨.backwall, some .solidFluid, some .reflection, some .couplant, some false, some false⟩, ⟨.frontwall, some .solidFluid, some .reflection, some .couplant, some true, some true⟩, ⟨.grid, none, none, none, some true, none⟩], [.couplant, .block, .block, .block], ['L', 'T', 'T', 'L']⟩, ⟨['L', 'L'], [⟨.probe, none, none, none, none, some true⟩, ⟨.frontwall, some .fluidSolid, some .transmission, none, some false, some true⟩, ⟨.backwall, some .solidFluid, some .reflection, some .couplant, some false, some false⟩, ⟨.grid, none, none, none, some true, none⟩], [.couplant, .block, .block], ['L', 'L', 'L']⟩, ['L', 'L']⟩,
  ⟨.immersion, ['T', 'T', 'L'], ['L', 'T'], ⟨['T', 'T', 'L'], [⟨.probe, none, none, none, none, some true⟩, ⟨.frontwall, some .fluidSolid, some .transmission, none, some false, some true⟩, ⟨.backwall, some .solidFluid, some .reflection, some .couplant, some false, some false⟩, ⟨.frontwall, some .solidFluid, some .reflection, some .couplant, some true, some true⟩, ⟨.grid, none, none, none, some true, none⟩], [.couplant, .block, .block, .block], ['L', 'T', 'T', 'L']⟩, ⟨['T', 'L'], [⟨.probe, none, none, none, none, some true⟩, ⟨.frontwall, some .fluidSolid, some .transmission, none, some false, some true⟩, ⟨.backwall, some .solidFluid, some .reflection, some .couplant, some false, some false⟩, ⟨.grid, none, none, none, some true, none⟩], [.couplant, .block, .block], ['L', 'T', 'L']⟩, ['L', 'L']⟩,
  ⟨.immersion, ['T', 'T', 'L'], ['T', 'L'], ⟨['T', 'T', 'L'], [⟨.probe, none, none, none, none, some true⟩, ⟨.frontwall, some .fluidSolid, some .transmission, none, some false, some true⟩, ⟨.backwall, some .solidFluid, some .reflection, some .couplant, some false, some false⟩, ⟨.frontwall, some .solidFluid, some .reflection, some .couplant, some true, some true⟩, ⟨.grid, none, none, none, some true, none⟩], [.couplant, .block, .block, .block], ['L', 'T', 'T', 'L']⟩, ⟨['L', 'T'], [⟨.probe, none, none, none, none, some true⟩, ⟨.frontwall, some .fluidSolid, some .transmission, none, some false, some true⟩, ⟨.backwall, some .solidFluid, some .reflection, some .couplant, some false, some false⟩, ⟨.grid, none, none, none, some true, none⟩], [.couplant, .block, .block], ['L', 'L', 'T']⟩, ['L', 'T']⟩,
  ⟨.immersion, ['T', 'T', 'L'], ['T', 'T'], ⟨['T', 'T', 'L'], [⟨.probe, none, none, none, none, some true⟩, ⟨.frontwall, some .fluidSolid, some .transmission, none, some false, some true⟩, ⟨.backwall, some .solidFluid, some .reflection, some .couplant, some false, some false⟩, ⟨.frontwall, some .solidFluid, some .reflection, some .couplant, some true, some true⟩, ⟨.grid, none, none, none, some true, none⟩], [.couplant, .block, .block, .block], ['L', 'T', 'T', 'L']⟩, ⟨['T', 'T'], [⟨.probe, none, none, none, none, some true⟩, ⟨.frontwall, some .fluidSolid, some .transmission, none, some false, some true⟩, ⟨.backwall, some .solidFluid, some .reflection, some .couplant, some false, some false⟩, ⟨.grid, none, none, none, some true, none⟩], [.couplant, .block, .block], ['L', 'T', 'T']⟩, ['L', 'T']⟩,
  ⟨.immersion, ['T', 'T', 'T'], ['L', 'L'], ⟨['T', 'T', 'T'], [⟨.probe, none, none, none, none, some true⟩, ⟨.frontwall, some .fluidSolid, some .transmission, none, some false, some true⟩, ⟨.backwall, some .solidFluid, some .reflection, some .couplant, some false, some false⟩, ⟨.frontwall, some .solidFluid, some .reflection, some .couplant, some true, some true⟩, ⟨.grid, none, none, none, some true, none⟩], [.couplant, .block, .block, .block], ['L', 'T', 'T', 'T']⟩, ⟨['L', 'L'], [⟨.probe, none, none, none, none, some true⟩, ⟨.frontwall, some .fluidSolid, some .transmission, none, some false, some true⟩, ⟨.backwall, some .solidFluid, some .reflection, some .couplant, some false, some false⟩, ⟨.grid, none, none, none, some true, none⟩], [.couplant, .block, .block], ['L', 'L', 'L']⟩, ['T', 'L']⟩,
  ⟨.immersion, ['T', 'T', 'T'], ['L', 'T'], ⟨['T', 'T', 'T'], [⟨.probe, none, none, none, none, some true⟩, ⟨.frontwall, some .fluidSolid, some .transmission, none, some false, some true⟩, ⟨.backwall, some .solidFluid, some .reflection, some .couplant, some false, some false⟩, ⟨.frontwall, some .solidFluid, some .reflection, some .couplant, some true, some true⟩, ⟨.grid, none, none, none, some true, none⟩], [.couplant, .block, .block, .block], ['L', 'T', 'T', 'T']⟩, ⟨['T', 'L'], [⟨.probe, none, none, none, none, some true⟩, ⟨.frontwall, some .fluidSolid, some .transmission, none, some false, some true⟩, ⟨.backwall, some .solidFluid, some .reflection, some .couplant, some false, some false⟩, ⟨.grid, none, none, none, some true, none⟩], [.couplant, .block, .block], ['L', 'T', 'L']⟩, ['T', 'L']⟩,
  ⟨.immersion, ['T', 'T', 'T'], ['T', 'L'], ⟨['T', 'T', 'T'], [⟨.probe, none, none, none, none, some true⟩, ⟨.frontwall, some .fluidSolid, some .transmission, none, some false, some true⟩, ⟨.backwall, some .solidFluid, some .reflection, some .couplant, some false, some false⟩, ⟨.frontwall, some .solidFluid, some .reflection, some .couplant, some true, some true⟩, ⟨.grid, none, none, none, some true, none⟩], [.couplant, .block, .block, .block], ['L', 'T', 'T', 'T']⟩, ⟨['L', 'T'], [⟨.probe, none, none, none, none, some true⟩, ⟨.frontwall, some .fluidSolid, some .transmission, none, some false, some true⟩, ⟨.backwall, some .solidFluid, some .reflection, some .couplant, some false, some false⟩, ⟨.grid, none, none, none, some true, none⟩], [.couplant, .block, .block], ['L', 'L', 'T']⟩, ['T', 'T']⟩,
  ⟨.immersion, ['T', 'T', 'T'], ['T', 'T'], ⟨['T', 'T', 'T'], [⟨.probe, none, none, none, none, some true⟩, ⟨.frontwall, some .fluidSolid, some .transmission, none, some false, some true⟩, ⟨.backwall, some .solidFluid, some .reflection, some .couplant, some false, some false⟩, ⟨.frontwall, some .solidFluid, some .reflection, some .couplant, some true, some true⟩, ⟨.grid, none, none, none, some true, none⟩], [.couplant, .block, .block, .block], ['L', 'T', 'T', 'T']⟩, ⟨['T', 'T'], [⟨.probe, none, none, none, none, some true⟩, ⟨.frontwall, some .fluidSolid, some .transmission, none, some false, some true⟩, ⟨.backwall, some .solidFluid, some .reflection, some .couplant, some false, some false⟩, ⟨.grid, none, none, none, some true, none⟩], [.couplant, .block, .block], ['L', 'T', 'T']⟩, ['T', 'T']⟩,
  ⟨.immersion, ['L', 'L'], ['L', 'L', 'L'], ⟨['L', 'L'], [⟨.probe, none, none, none, none, some true⟩, ⟨.frontwall, some .fluidSolid, some .transmission, none, some false, some true⟩, ⟨.backwall, some .solidFluid, some .reflection, some .couplant, some false, some false⟩, ⟨.grid, none, none, none, some true, none⟩], [.couplant, .block, .block], ['L', 'L', 'L']⟩, ⟨['L', 'L', 'L'], [⟨.probe, none, none, none, none, some true⟩, ⟨.frontwall, some .fluidSolid, some .transmission, none, some false, some true⟩, ⟨.backwall, some .solidFluid, some .reflection, some .couplant, some false, some false⟩, ⟨.frontwall, some .solidFluid, some .reflection, some .couplant, some true, some true⟩, ⟨.grid, none, none, none, some true, none⟩], [.couplant, .block, .block, .block], ['L', 'L', 'L', 'L']⟩, ['L', 'L']⟩,
  ⟨.immersion, ['L', 'L'], ['L', 'L', 'T'], ⟨['L', 'L'], [⟨.probe, none, none, none, none, some true⟩, ⟨.frontwall, some .fluidSolid, some .transmission, none, some false, some true⟩, ⟨.backwall, some .solidFluid, some .reflection, some .couplant, some false, some false⟩, ⟨.grid, none, none, none, some true, none⟩], [.couplant, .block, .block], ['L', 'L', 'L']⟩, ⟨['T', 'L', 'L'], [⟨.probe, none, none, none, none, some true⟩, ⟨.frontwall, some .fluidSolid, some .transmission, none, some false, some true⟩, ⟨.backwall, some .solidFluid, some .reflection, some .couplant, some false, some false⟩, ⟨.frontwall, some .solidFluid, some .reflection, some .couplant, some true, some true⟩, ⟨.grid, none, none, none, some true, none⟩], [.couplant, .block, .block, .block], ['L', 'T', 'L', 'L']⟩, ['L', 'L']⟩,
  ⟨.immersion, ['L', 'L'], ['L', 'T', 'L'], ⟨['L', 'L'], [⟨.probe, none, none, none, none, some true⟩, ⟨.frontwall, some .fluidSolid, some .transmission, none, some false, some true⟩, ⟨.backwall, some .solidFluid, some .reflection, some .couplant, some false, some false⟩, ⟨.grid, none, none, none, some true, none⟩], [.couplant, .block, .block], ['L', 'L', 'L']⟩, ⟨['L', 'T', 'L'], [⟨.probe, none, none, none, none, some true⟩, ⟨.frontwall, some .fluidSolid, some .transmission, none, some false, some true⟩, ⟨.backwall, some .solidFluid, some .reflection, some .couplant, some false, some false⟩, ⟨.frontwall, some .solidFluid, some .reflection, some .couplant, some true, some true⟩, ⟨.grid, none, none, none, some true, none⟩], [.couplant, .block, .block, .block], ['L', 'L', 'T', 'L']⟩, ['L', 'L']⟩,
  ⟨.immersion, ['L', 'L'], ['L', 'T', 'T'], ⟨['L', 'L'], [⟨.probe, none, none, none, none, some true⟩, ⟨.frontwall, some .fluidSolid, some .transmission, none, some false, some true⟩, ⟨.backwall, some .solidFluid, some .reflection, some .couplant, some false, some false⟩, ⟨.grid, none, none, none, some true, none⟩], [.couplant, .block, .block], ['L', 'L', 'L']⟩, ⟨['T', 'T', 'L'], [⟨.probe, none, none, none, none, some true⟩, ⟨.frontwall, some .fluidSolid, some .transmission, none, some false, some true⟩, ⟨.backwall, some .solidFluid, some .reflection, some .couplant, some false, some false⟩, ⟨.frontwall, some .solidFluid, some .reflection, some .couplant, some true, some true⟩, ⟨.grid, none, none, none, some true, none⟩], [.couplant, .block, .block, .block], ['L', 'T', 'T', 'L']⟩, ['L', 'L']⟩,
  ⟨.immersion, ['L', 'L'], ['T', 'L', 'L'], ⟨['L', 'L'], [⟨.probe, none, none, none, none, some true⟩, ⟨.frontwall, some .fluidSolid, some .transmission, none, some false, some true⟩, ⟨.backwall, some .solidFluid, some .reflection, some .couplant, some false, some false⟩, ⟨.grid, none, none, none, some true, none⟩], [.couplant, .block, .block], ['L', 'L', 'L']⟩, ⟨['L', 'L', 'T'], [⟨.probe, none, none, none, none, some true⟩, ⟨.frontwall, some .fluidSolid, some .transmission, none, some false, some true⟩, ⟨.backwall, some .solidFluid, some .reflection, some .couplant, some false, some false⟩, ⟨.frontwall, some .solidFluid, some .reflection, some .couplant, some true, some true⟩, ⟨.grid, none, none, none, some true, none⟩], [.couplant, .block, .block, .block], ['L', 'L', 'L', 'T']⟩, ['L', 'T']⟩,
  ⟨.immersion, ['L', 'L'], ['T', 'L', 'T'], ⟨['L', 'L'], [⟨.probe, none, none, none, none, some true⟩, ⟨.frontwall, some .fluidSolid, some .transmission, none, some false, some true⟩, ⟨.backwall, some .solidFluid, some .reflection, some .couplant, some false, some false⟩, ⟨.grid, none, none, none, some true, none⟩], [.couplant, .block, .block], ['L', 'L', 'L']⟩, ⟨['T', 'L', 'T'], [⟨.probe, none, none, none, none, some true⟩, ⟨.frontwall, some .fluidSolid, some .transmission, none, some false, some true⟩, ⟨.backwall, some .solidFluid, some .reflection, some .couplant, some false, some false⟩, ⟨.frontwall, some .solidFluid, some .reflection, some .couplant, some true, some true⟩, ⟨.grid, none, none, none, some true, none⟩], [.couplant, .block, .block, .block], ['L', 'T', 'L', 'T']⟩, ['L', 'T']⟩,
  ⟨.immersion, ['L', 'L'], ['T', 'T', 'L'], ⟨['L', 'L'], [⟨.probe, none, none, none, none, some true⟩, ⟨.frontwall, some .fluidSolid, some .transmission, none, some false, some true⟩, ⟨.backwall, some .solidFluid, some .reflection, some .couplant, some false, some false⟩, ⟨.grid, none, none, none, some true, none⟩], [.couplant, .block, .block], ['L', 'L', 'L']⟩, ⟨['L', 'T', 'T'], [⟨.probe, none, none, none, none, some true⟩, ⟨.frontwall, some .fluidSolid, some .transmission, none, some false, some true⟩, ⟨.backwall, some .solidFluid, some .reflection, some .couplant, some false, some false⟩, ⟨.frontwall, some .solidFluid, some .reflection, some .couplant, some true, some true⟩, ⟨.grid, none, none, none, some true, none⟩], [.couplant, .block, .block, .block], ['L', 'L', 'T', 'T']⟩, ['L', 'T']⟩,
  ⟨.immersion, ['L', 'L'], ['T', 'T', 'T'], ⟨['L', 'L'], [⟨.probe, none, none, none, none, some true⟩, ⟨.frontwall, some .fluidSolid, some .transmission, none, some false, some true⟩, ⟨.backwall, some .solidFluid, some .reflection, some .couplant, some false, some false⟩, ⟨.grid, none, none, none, some true, none⟩], [.couplant, .block, .block], ['L', 'L', 'L']⟩, ⟨['T', 'T', 'T'], [⟨.probe, none, none, none, none, some true⟩, ⟨.frontwall, some .fluidSolid, some .transmission, none, some false, some true⟩, ⟨.backwall, some .solidFluid, some .reflection, some .couplant, some false, some false⟩, ⟨.frontwall, some .solidFluid, some .reflection, some .couplant, some true, some true⟩, ⟨.grid, none, none, none, some true, none⟩], [.couplant, .block, .block, .block], ['L', 'T', 'T', 'T']⟩, ['L', 'T']⟩,
  ⟨.immersion, ['L', 'T'], ['L', 'L', 'L'], ⟨['L', 'T'], [⟨.probe, none, none, none, none, some true⟩, ⟨.frontwall, some .fluidSolid, some .transmission, none, some false, some true⟩, ⟨.backwall, some .solidFluid, some .reflection, some .couplant, some false, some false⟩, ⟨.grid, none, none, none, some true, none⟩], [.couplant, .block, .block], ['L', 'L', 'T']⟩, ⟨['L', 'L', 'L'], [⟨.probe, none, none, none, none, some true⟩, ⟨.frontwall, some .fluidSolid, some .transmission, none, some false, some true⟩, ⟨.backwall, some .solidFluid, some .reflection, some .couplant, some false, some false⟩, ⟨.frontwall, some .solidFluid, some .reflection, some .couplant, some true, some true⟩, ⟨.grid, none, none, none, some true, none⟩], [.couplant, .block, .block, .block], ['L', 'L', 'L', 'L']⟩, ['T', 'L']⟩,
  ⟨.immersion, ['L', 'T'], ['L', 'L', 'T'], ⟨['L', 'T'], [⟨.probe, none, none, none, none, some true⟩, ⟨.frontwall, some .fluidSolid, some .transmission, none, some false, some true⟩, ⟨.backwall, some .solidFluid, some .reflection, some .couplant, some false, some false⟩, ⟨.grid, none, none, none, some true, none⟩], [.couplant, .block, .block], ['L', 'L', 'T']⟩, ⟨['T', 'L', 'L'], [⟨.probe, none, none, none, none, some true⟩, ⟨.frontwall, some .fluidSolid, some .transmission, none, some false, some true⟩, ⟨.backwall, some .solidFluid, some .reflection, some .couplant, some false, some false⟩, ⟨.frontwall, some .solidFluid, some .reflection, some .couplant, some true, some true⟩, ⟨.grid, none, none, none, some true, none⟩], [.couplant, .block, .block, .block], ['L', 'T', 'L', 'L']⟩, ['T', 'L']⟩,
  ⟨.immersion, ['L', 'T'], ['L', 'T', 'L'], ⟨['L', 'T'], [⟨.probe, none, none, none, none, some true⟩, ⟨.frontwall, some .fluidSolid, some .transmission, none, some false, some true⟩, ⟨.backwall, some .solidFluid, some .reflection, some .couplant, some false, some false⟩, ⟨.grid, none, none, none, some true, none⟩], [.couplant, .block, .block], ['L', 'L', 'T']⟩, ⟨['L', 'T', 'L'], [⟨.probe, none, none, none, none, some true⟩, ⟨.frontwall, some .fluidSolid, some .transmission, none, some false, some true⟩, ⟨.backwall, some .solidFluid, some .reflection, some .couplant, some false, some false⟩, ⟨.frontwall, some .solidFluid, some .reflection, some .couplant, some true, some true⟩, ⟨.grid, none, none, none, some true, none⟩], [.couplant, .block, .block, .block], ['L', 'L', 'T', 'L']⟩, ['T', 'L']⟩,
  ⟨.immersion, ['L', 'T'], ['L', 'T', 'T'], ⟨['L', 'T'], [⟨.probe, none, none, none, none, some true⟩, ⟨.frontwall, some .fluidSolid, some .transmission, none, some false, some true⟩, ⟨.backwall, some .solidFluid, some .reflection, some .couplant, some false, some false⟩, ⟨.grid, none, none, none, some true, none⟩], [.couplant, .block, .block], ['L', 'L', 'T']⟩, ⟨['T', 'T', 'L'], [⟨.probe, none, none, none, none, some true⟩, ⟨.frontwall, some .fluidSolid, some .transmission, none, some false, some true⟩, ⟨.backwall, some .solidFluid, some .reflection, some .couplant, some false, some false⟩, ⟨.frontwall, some .solidFluid, some .reflection, some .couplant, some true, some true⟩, ⟨.grid, none, none, none, some true, none⟩], [.couplant, .block, .block, .block], ['L', 'T', 'T', 'L']⟩, ['T', 'L']⟩,
  ⟨.immersion, ['L', 'T'], ['T', 'L', 'L'], ⟨['L', 'T'], [⟨.probe, none, none, none, none, some true⟩, ⟨.frontwall, some .fluidSolid, some .transmission, none, some false, some true⟩, ⟨.backwall, some .solidFluid, some .reflection, some .couplant, some false, some false⟩, ⟨.grid, none, none, none, some true, none⟩], [.couplant, .block, .block], ['L', 'L', 'T']⟩, ⟨['L', 'L', 'T'], [⟨.probe, none, none, none, none, some true⟩, ⟨.frontwall, some .fluidSolid, some .transmission, none, some false, some true⟩, ⟨.backwall, some .solidFluid, some .reflection, some .couplant, some false, some false⟩, ⟨.frontwall, some .solidFluid, some .reflection, some .couplant, some true, some true⟩, ⟨.grid, none, none, none, some true, none⟩], [.couplant, .block, .block, .block], ['L', 'L', 'L', 'T']⟩, ['T', 'T']⟩,
  ⟨.immersion, ['L', 'T'], ['T', 'L', 'T'], ⟨['L', 'T'], [⟨.probe, none, none, none, none, some true⟩, ⟨.frontwall, some .fluidSolid, some .transmission, none, some false, some true⟩, ⟨.backwall, some .solidFluid, some .reflection, some .couplant, some false, some false⟩, ⟨.grid, none, none, none, some true, none⟩], [.couplant, .block, .block], ['L', 'L', 'T']⟩, ⟨['T', 'L', 'T'], [⟨.probe, none, none, none, none, some true⟩, ⟨.frontwall, some .fluidSolid, some .transmission, none, some false, some true⟩, ⟨.backwall, some .solidFluid, some .reflection, some .couplant, some false, some false⟩, ⟨.frontwall, some .solidFluid, some .reflection, some .couplant, some true, some true⟩, ⟨.grid, none, none, none, some true, none⟩], [.couplant, .block, .block, .block], ['L', 'T', 'L', 'T']⟩, ['T', 'T']⟩,
  ⟨.immersion, ['L', 'T'], ['T', 'T', 'L'], ⟨['L', 'T'], [⟨.probe, none, none, none, none, some true⟩, ⟨.frontwall, some .fluidSolid, some .transmission, none, some false, some true⟩, ⟨.backwall, some .solidFluid, some .reflection, some .couplant, some false, some false⟩, ⟨.grid, none, none, none, some true, none⟩], [.couplant, .block, .block], ['L', 'L', 'T']⟩, ⟨['L', 'T', 'T'], [⟨.probe, none, none, none, none, some true⟩, ⟨.frontwall, some .fluidSolid, some .transmission, none, some false, some true⟩, ⟨.backwall, some .solidFluid, some .reflection, some .couplant, some false, some false⟩, ⟨.frontwall, some .solidFluid, some .reflection, some .couplant, some true, some true⟩, ⟨.grid, none, none, none, some true, none⟩], [.couplant, .block, .block, .block], ['L', 'L', 'T', 'T']⟩, ['T', 'T']⟩,
  ⟨.immersion, ['L', 'T'], ['T', 'T', 'T'], ⟨['L', 'T'], [⟨.probe, none, none, none, none, some true⟩, ⟨.frontwall, some .fluidSolid, some .transmission, none, some false, some true⟩, ⟨.backwall, some .solidFluid, some .reflection, some .couplant, some false, some false⟩, ⟨.grid, none, none, none, some true, none⟩], [.couplant, .block, .block], ['L', 'L', 'T']⟩, ⟨['T', 'T', 'T'], [⟨.probe, none, none, none, none, some true⟩, ⟨.frontwall, some .fluidSolid, some .transmission, none, some false, some true⟩, ⟨.backwall, some .solidFluid, some .reflection, some .couplant, some false, some false⟩, ⟨.frontwall, some .solidFluid, some .reflection, some .couplant, some true, some true⟩, ⟨.grid, none, none, none, some true, none⟩], [.couplant, .block, .block, .block], ['L', 'T', 'T', 'T']⟩, ['T', 'T']⟩,
  ⟨.immersion, ['T', 'L'], ['L', 'L', 'L'], ⟨['T', 'L'], [⟨.probe, none, none, none, none, some true⟩, ⟨.frontwall, some .fluidSolid, some .transmission, none, some false, some true⟩, ⟨.backwall, some .solidFluid, some .reflection, some .couplant, some false, some false⟩, ⟨.grid, none, none, none, some true, none⟩], [.couplant, .block, .block], ['L', 'T', 'L']⟩, ⟨['L', 'L', 'L'], [⟨.probe, none, none, none, none, some true⟩, ⟨.frontwall, some .fluidSolid, some .transmission, none, some false, some true⟩, ⟨.backwall, some .solidFluid, some .reflection, some .couplant, some false, some false⟩, ⟨.frontwall, some .solidFluid, some .reflection, some .couplant, some true, some true⟩, ⟨.grid, none, none, none, some true, none⟩], [.couplant, .block, .block, .block], ['L', 'L', 'L', 'L']⟩, ['L', 'L']⟩,
  ⟨.immersion, ['T', 'L'], ['L', 'L', 'T'], ⟨['T', 'L'], [⟨.probe, none, none, none, none, some true⟩, ⟨.frontwall, some .fluidSolid, some .transmission, none, some false, some true⟩, ⟨.backwall, some .solidFluid, some .reflection, some .couplant, some false, some false⟩, ⟨.grid, none, none, none, some true, none⟩], [.couplant, .block, .block], ['L', 'T', 'L']⟩, ⟨['T', 'L', 'L'], [⟨.probe, none, none, none, none, some true⟩, ⟨.frontwall, some .fluidSolid, some .transmission, none, some false, some true⟩, ⟨.backwall, some .solidFluid, some .reflection, some .couplant, some false, some false⟩, ⟨.frontwall, some .solidFluid, some .reflection, some .couplant, some true, some true⟩, ⟨.grid, none, none, none, some true, none⟩], [.couplant, .block, .block, .block], ['L', 'T', 'L', 'L']⟩, ['L', 'L']⟩,
  ⟨.immersion, ['T', 'L'], ['L', 'T', 'L'], ⟨['T', 'L'], [⟨.probe, none, none, none, none, some true⟩, ⟨.frontwall, some .fluidSolid, some .transmission, none, some false, some true⟩, ⟨.backwall, some .solidFluid, some .reflection, some .couplant, some false, some false⟩, ⟨.grid, none, none, none, some true, none⟩], [.couplant, .block, .block], ['L', 'T', 'L']⟩, ⟨['L', 'T', 'L'], [⟨.probe, none, none, none, none, some true⟩, ⟨.frontwall, some .fluidSolid, some .transmission, none, some false, some true⟩, ⟨.backwall, some .solidFluid, some .reflection, some .couplant, some false, some false⟩, ⟨.frontwall, some .solidFluid, some .reflection, some .couplant, some true, some true⟩, ⟨.grid, none, none, none, some true, none⟩], [.couplant, .block, .block, .block], ['L', 'L', 'T', 'L']⟩, ['L', 'L']⟩,
  ⟨.immersion, ['T', 'L'], ['L', 'T', 'T'], ⟨['T', 'L'], [⟨.probe, none, none, none, none, some true⟩, ⟨.frontwall, some .fluidSolid, some .transmission, none, some false, some true⟩, ⟨.backwall, some .solidFluid, some .reflection, some .couplant, some false, some false⟩, ⟨.grid, none, none, none, some true, none⟩], [.couplant, .block, .block], ['L', 'T', 'L']⟩, ⟨['T', 'T', 'L'], [⟨.probe, none, none, none, none, some true⟩, ⟨.frontwall, some .fluidSolid, some .transmission, none, some false, some true⟩, ⟨.backwall, some .solidFluid, some .reflection, some .couplant, some false, some false⟩, ⟨.frontwall, some .solidFluid, some .reflection, some .couplant, some true, some true⟩, ⟨.grid, none, none, none, some true, none⟩], [.couplant, .block, .block, .block], ['L', 'T', 'T', 'L']⟩, ['L', 'L']⟩
]

def table3 : List ViewEntry := [
  ⟨.immersion, ['T', 'L'], ['T', 'L', 'L'], ⟨['T', 'L'], [⟨.probe, none, none, none, none, some true⟩, ⟨.frontwall, some .fluidSolid, some .transmission, none, some false, some true⟩, ⟨.backwall, some .solidFluid, some .reflection, some .couplant, some false, some false⟩, ⟨.grid, none, none, none, some true, none⟩], [.couplant, .block, .block], ['L', 'T', 'L']⟩, ⟨['L', 'L', 'T'], [⟨.probe, none, none, none, none, some true⟩, ⟨.frontwall, some .fluidSolid, some .transmission, none, some false, some true⟩, ⟨.backwall, some .solidFluid, some .reflection, some .couplant, some false, some false⟩, ⟨.frontwall, some .solidFluid, some .reflection, some .couplant, some true, some true⟩, ⟨.grid, none, none, none, some true, none⟩], [.couplant, .block, .block, .block], ['L', 'L', 'L', 'T']⟩, ['L', 'T']⟩,
  ⟨.immersion, ['T', 'L'], ['T', 'L', 'T'], ⟨['T', 'L'], [⟨.probe, none, none, none, none, some true⟩, ⟨.frontwall, some .fluidSolid, some .transmission, none, some false, some true⟩, ⟨.backwall, some .solidFluid, some .reflection, some .couplant, some false, some false⟩, ⟨.grid, none, none, none, some true, none⟩], [.couplant, .block, .block], ['L', 'T', 'L']⟩, ⟨['T', 'L', 'T'], [⟨.probe, none, none, none, none, some true⟩, ⟨.frontwall, some .fluidSolid, some .transmission, none, some false, some true⟩, ⟨.backwall, some .solidFluid, some .reflection, some .couplant, some false, some false⟩, ⟨.frontwall, some .solidFluid, some .reflection, some .couplant, some true, some true⟩, ⟨.grid, none, none, none, some true, none⟩], [.couplant, .block, .block, .block], ['L', 'T', 'L', 'T']⟩, ['L', 'T']⟩,
  ⟨.immersion, ['T', 'L'], ['T', 'T', 'L'], ⟨['T', 'L'], [⟨.probe, none, none, none, none, some true⟩, ⟨.frontwall, some .fluidSolid, some .transmission, none, some false, some true⟩, ⟨.backwall, some .solidFluid, some .reflection, some .couplant, some false, some false⟩, ⟨.grid, none, none, none, some true, none⟩], [.couplant, .block, .block], ['L', 'T', 'L']⟩, ⟨['L', 'T', 'T'], [⟨.probe, none, none, none, none, some true⟩, ⟨.frontwall, some .fluidSolid, some .transmission, none, some false, some true⟩, ⟨.backwall, some .solidFluid, some .reflection, some .couplant, some false, some false⟩, ⟨.frontwall, some .solidFluid, some .reflection, some .couplant, some true, some true⟩, ⟨.grid, none, none, none, some true, none⟩], [.couplant, .block, .block, .block], ['L', 'L', 'T', 'T']⟩, ['L', 'T']⟩,
  ⟨.immersion, ['T', 'L'], ['T', 'T', 'T'], ⟨['T', 'L'], [⟨.probe, none, none, none, none, some true⟩, ⟨.frontwall, some .fluidSolid, some .transmission, none, some false, some true⟩, ⟨.backwall, some .solidFluid, some .reflection, some .couplant, some false, some false⟩, ⟨.grid, none, none, none, some true, none⟩], [.couplant, .block, .block], ['L', 'T', 'L']⟩, ⟨['T', 'T', 'T'], [⟨.probe, none, none, none, none, some true⟩, ⟨.frontwall, some .fluidSolid, some .transmission, none, some false, some true⟩, ⟨.backwall, some .solidFluid, some .reflection, some .couplant, some false, some false⟩, ⟨.frontwall, some .solidFluid, some .reflection, some .couplant, some true, some true⟩, ⟨.grid, none, none, none, some true, none⟩], [.couplant, .block, .block, .block], ['L', 'T', 'T', 'T']⟩, ['L', 'T']⟩,
  ⟨.immersion, ['T', 'T'], ['L', 'L', 'L'], ⟨['T', 'T'], [⟨.probe, none, none, none, none, some true⟩, ⟨.frontwall, some .fluidSolid, some .transmission, none, some false, some true⟩, ⟨.backwall, some .solidFluid, some .reflection, some .couplant, some false, some false⟩, ⟨.grid, none, none, none, some true, none⟩], [.couplant, .block, .block], ['L', 'T', 'T']⟩, ⟨['L', 'L', 'L'], [⟨.probe, none, none, none, none, some true⟩, ⟨.frontwall, some .fluidSolid, some .transmission, none, some false, some true⟩, ⟨.backwall, some .solidFluid, some .reflection, some .couplant, some false, some false⟩, ⟨.frontwall, some .solidFluid, some .reflection, some .couplant, some true, some true⟩, ⟨.grid, none, none, none, some true, none⟩], [.couplant, .block, .block, .block], ['L', 'L', 'L', 'L']⟩, ['T', 'L']⟩,
  ⟨.immersion, ['T', 'T'], ['L', 'L', 'T'], ⟨['T', 'T'], [⟨.probe, none, none, none, none, some true⟩, ⟨.frontwall, some .fluidSolid, some .transmission, none, some false, some true⟩, ⟨.backwall, some .solidFluid, some .reflection, some .couplant, some false, some false⟩, ⟨.grid, none, none, none, some true, none⟩], [.couplant, .block, .block], ['L', 'T', 'T']⟩, ⟨['T', 'L', 'L'], [⟨.probe, none, none, none, none, some true⟩, ⟨.frontwall, some .fluidSolid, some .transmission, none, some false, some true⟩, ⟨.backwall, some .solidFluid, some .reflection, some .couplant, some false, some false⟩, ⟨.frontwall, some .solidFluid, some .reflection, some .couplant, some true, some true⟩, ⟨.grid, none, none, none, some true, none⟩], [.couplant, .block, .block, .block], ['L', 'T', 'L', 'L']⟩, ['T', 'L']⟩,
  ⟨.immersion, ['T', 'T'], ['L', 'T', 'L'], ⟨['T', 'T'], [⟨.probe, none, none, none, none, some true⟩, ⟨.frontwall, some .fluidSolid, some .transmission, none, some false, some true⟩, ⟨.backwall, some .solidFluid, some .reflection, some .couplant, some false, some false⟩, ⟨.grid, none, none, none, some true, none⟩], [.couplant, .block, .block], ['L', 'T', 'T']⟩, ⟨['L', 'T', 'L'], [⟨.probe, none, none, none, none, some true⟩, ⟨.frontwall, some .fluidSolid, some .transmission, none, some false, some true⟩, ⟨.backwall, some .solidFluid, some .reflection, some .couplant, some false, some false⟩, ⟨.frontwall, some .solidFluid, some .reflection, some .couplant, some true, some true⟩, ⟨.grid, none, none, none, some true, none⟩], [.couplant, .block, .block, .block], ['L', 'L', 'T', 'L']⟩, ['T', 'L']⟩,
  ⟨.immersion, ['T', 'T'], ['L', 'T', 'T'], ⟨['T', 'T'], [⟨.probe, none, none, none, none, some true⟩, ⟨.frontwall, some .fluidSolid, some .transmission, none, some false, some true⟩, ⟨.backwall, some .solidFluid, some .reflection, some .couplant, some false, some false⟩, ⟨.grid, none, none, none, some true, none⟩], [.couplant, .block, .block], ['L', 'T', 'T']⟩, ⟨['T', 'T', 'L'], [⟨.probe, none, none, none, none, some true⟩, ⟨.frontwall, some .fluidSolid, some .transmission, none, some false, some true⟩, ⟨.backwall, some .solidFluid, some .reflection, some .couplant, some false, some false⟩, ⟨.frontwall, some .solidFluid, some .reflection, some .couplant, some true, some true⟩, ⟨.grid, none, none, none, some true, none⟩], [.couplant, .block, .block, .block], ['L', 'T', 'T', 'L']⟩, ['T', 'L']⟩,
  ⟨.immersion, ['T', 'T'], ['T', 'L', 'L'], ⟨['T', 'T'], [⟨.probe, none, none, none, none, some true⟩, ⟨.frontwall, some .fluidSolid, some .transmission, none, some false, some true⟩, ⟨.backwall, some .solidFluid, some .reflection, some .couplant, some false, some false⟩, ⟨.grid, none, none, none, some true, none⟩], [.couplant, .block, .block], ['L', 'T', 'T']⟩, ⟨['L', 'L', 'T'], [⟨.probe, none, none, none, none, some true⟩, ⟨.frontwall, some .fluidSolid, some .transmission, none, some false, some true⟩, ⟨.backwall, some .solidFluid, some .reflection, some .couplant, some false, some false⟩, ⟨.frontwall, some .solidFluid, some .reflection, some .couplant, some true, some true⟩, ⟨.grid, none, none, none, some true, none⟩], [.couplant, .block, .block, .block], ['L', 'L', 'L', 'T']⟩, ['T', 'T']⟩,
  ⟨.immersion, ['T', 'T'], ['T', 'L', 'T'], ⟨['T', 'T'], [⟨.probe, none, none, none, none, some true⟩, ⟨.frontwall, some .fluidSolid, some .transmission, none, some false, some true⟩, ⟨.backwall, some .solidFluid, some .reflection, some .couplant, some false, some false⟩, ⟨.grid, none, none, none, some true, none⟩], [.couplant, .block, .block], ['L', 'T', 'T']⟩, ⟨['T', 'L', 'T'], [⟨.probe, none, none, none, none, some true⟩, ⟨.frontwall, some .fluidSolid, some .transmission, none, some false, some true⟩, ⟨.backwall, some .solidFluid, some .reflection, some .couplant, some false, some false⟩, ⟨.frontwall, some .solidFluid, some .reflection, some .couplant, some true, some true⟩, ⟨.grid, none, none, none, some true, none⟩], [.couplant, .block, .block, .block], ['L', 'T', 'L', 'T']⟩, ['T', 'T']⟩,
  ⟨.immersion, ['T', 'T'], ['T', 'T', 'L'], ⟨['T', 'T'], [⟨.probe, none, none, none, none, some true⟩, ⟨.frontwall, some .fluidSolid, some .transmission, none, some false, some true⟩, ⟨.backwall, some .solidFluid, some .reflection, some .couplant, some false, some false⟩, ⟨.grid, none, none, none, some true, none⟩], [.couplant, .block, .block], ['L', 'T', 'T']⟩, ⟨['L', 'T', 'T'], [⟨.probe, none, none, none, none, some true⟩, ⟨.frontwall, some .fluidSolid, some .transmission, none, some false, some true⟩, ⟨.backwall, some .solidFluid, some .reflection, some .couplant, some false, some false⟩, ⟨.frontwall, some .solidFluid, some .reflection, some .couplant, some true, some true⟩, ⟨.grid, none, none, none, some true, none⟩], [.couplant, .block, .block, .block], ['L', 'L', 'T', 'T']⟩, ['T', 'T']⟩,
  ⟨.immersion, ['T', 'T'], ['T', 'T', 'T'], ⟨['T', 'T'], [⟨.probe, none, none, none, none, some true⟩, ⟨.frontwall, some .fluidSolid, some .transmission, none, some false, some true⟩, ⟨.backwall, some .solidFluid, some .reflection, some .couplant, some false, some false⟩, ⟨.grid, none, none, none, some true, none⟩], [.couplant, .block, .block], ['L', 'T', 'T']⟩, ⟨['T', 'T', 'T'], [⟨.probe, none, none, none, none, some true⟩, ⟨.frontwall, some .fluidSolid, some .transmission, none, some false, some true⟩, ⟨.backwall, some .solidFluid, some .reflection, some .couplant, some false, some false⟩, ⟨.frontwall, some .solidFluid, some .reflection, some .couplant, some true, some true⟩, ⟨.grid, none, none, none, some true, none⟩], [.couplant, .block, .block, .block], ['L', 'T', 'T', 'T']⟩, ['T', 'T']⟩,
  ⟨.immersion, ['L', 'L', 'L'], ['L', 'L', 'L'], ⟨['L', 'L', 'L'], [⟨.probe, none, none, none, none, some true⟩, ⟨.frontwall, some .fluidSolid, some .transmission, none, some false, some true⟩, ⟨.backwall, some .solidFluid, some .reflection, some .couplant, some false, some false⟩, ⟨.frontwall, some .solidFluid, some .reflection, some .couplant, some true, some true⟩, ⟨.grid, none, none, none, some true, none⟩], [.couplant, .block, .block, .block], ['L', 'L', 'L', 'L']⟩, ⟨['L', 'L', 'L'], [⟨.probe, none, none, none, none, some true⟩, ⟨.frontwall, some .fluidSolid, some .transmission, none, some false, some true⟩, ⟨.backwall, some .solidFluid, some .reflection, some .couplant, some false, some false⟩, ⟨.frontwall, some .solidFluid, some .reflection, some .couplant, some true, some true⟩, ⟨.grid, none, none, none, some true, none⟩], [.couplant, .block, .block, .block], ['L', 'L', 'L', 'L']⟩, ['L', 'L']⟩,
  ⟨.immersion, ['L', 'L', 'L'], ['L', 'L', 'T'], ⟨['L', 'L', 'L'], [⟨.probe, none, none, none, none, some true⟩, ⟨.frontwall, some .fluidSolid, some .transmission, none, some false, some true⟩, ⟨.backwall, some .solidFluid, some .reflection, some .couplant, some false, some false⟩, ⟨.frontwall, some .solidFluid, some .reflection, some .couplant, some true, some true⟩, ⟨.grid, none, none, none, some true, none⟩], [.couplant, .block, .block, .block], ['L', 'L', 'L', 'L']⟩, ⟨['T', 'L', 'L'], [⟨.probe, none, none, none, none, some true⟩, ⟨.frontwall, some .fluidSolid, some .transmission, none, some false, some true⟩, ⟨.backwall, some .solidFluid, some .reflection, some .couplant, some false, some false⟩, ⟨.frontwall, some .solidFluid, some .reflection, some .couplant, some true, some true⟩, ⟨.grid, none, none, none, some true, none⟩], [.couplant, .block, .block, .block], ['L', 'T', 'L', 'L']⟩, ['L', 'L']⟩,
  ⟨.immersion, ['L', 'L', 'L'], ['L', 'T', 'L'], ⟨['L', 'L', 'L'], [⟨.probe, none, none, none, none, some true⟩, ⟨.frontwall, some .fluidSolid, some .transmission, none, some false, some true⟩, ⟨.backwall, some .solidFluid, some .reflection, some .couplant, some false, some false⟩, ⟨.frontwall, some .solidFluid, some .reflection, some .couplant, some true, some true⟩, ⟨.grid, none, none, none, some true, none⟩], [.couplant, .block, .block, .block], ['L', 'L', 'L', 'L']⟩, ⟨['L', 'T', 'L'], [⟨.probe, none, none, none, none, some true⟩, ⟨.frontwall, some .fluidSolid, some .transmission, none, some false, some true⟩, ⟨.backwall, some .solidFluid, some .reflection, some .couplant, some false, some false⟩, ⟨.frontwall, some .solidFluid, some .reflection, some .couplant, some true, some true⟩, ⟨.grid, none, none, none, some true, none⟩], [.couplant, .block, .block, .block], ['L', 'L', 'T', 'L']⟩, ['L', 'L']⟩,
  ⟨.immersion, ['L', 'L', 'L'], ['L', 'T', 'T'], ⟨['L', 'L', 'L'], [⟨.probe, none, none, none, none, some true⟩, ⟨.frontwall, some .fluidSolid, some .transmission, none, some false, some true⟩, ⟨.backwall, some .solidFluid, some .reflection, some .couplant, some false, some false⟩, ⟨.frontwall, some .solidFluid, some .reflection, some .couplant, some true, some true⟩, ⟨.grid, none, none, none, some true, none⟩], [.couplant, .block, .block, .block], ['L', 'L', 'L', 'L']⟩, ⟨['T', 'T', 'L'], [⟨.probe, none, none, none, none, some true⟩, ⟨.frontwall, some .fluidSolid, some .transmission, none, some false, some true⟩, ⟨.backwall, some .solidFluid, some .reflection, some .couplant, some false, some false⟩, ⟨.frontwall, some .solidFluid, some .reflection, some .couplant, some true, some true⟩, ⟨.grid, none, none, none, some true, none⟩], [.couplant, .block, .block, .block], ['L', 'T', 'T', 'L']⟩, ['L', 'L']⟩,
  ⟨.immersion, ['L', 'L', 'L'], ['T', 'L', 'L'], ⟨['L', 'L', 'L'], [⟨.probe, none, none, none, none, some true⟩, ⟨.frontwall, some .fluidSolid, some .transmission, none, some false, some true⟩, ⟨.backwall, some .solidFluid, some .reflection, some .couplant, some false, some false⟩, ⟨.frontwall, some .solidFluid, some .reflection, some .couplant, some true, some true⟩, ⟨.grid, none, none, none, some true, none⟩], [.couplant, .block, .block, .block], ['L', 'L', 'L', 'L']⟩, ⟨['L', 'L', 'T'], [⟨.probe, none, none, none, none, some true⟩, ⟨.frontwall, some .fluidSolid, some .transmission, none, some false, some true⟩, ⟨.backwall, some .solidFluid, some .reflection, some .couplant, some false, some false⟩, ⟨.frontwall, some .solidFluid, some .reflection, some .couplant, some true, some true⟩, ⟨.grid, none, none, none, some true, none⟩], [.couplant, .block, .block, .block], ['L', 'L', 'L', 'T']⟩, ['L', 'T']⟩,
  ⟨.immersion, ['L', 'L', 'L'], ['T', 'L', 'T'], ⟨['L', 'L', 'L'], [⟨.probe, none, none, none, none, some true⟩, ⟨.frontwall, some .fluidSolid, some .transmission, none, some false, some true⟩, ⟨.backwall, some .solidFluid, some .reflection, some .couplant, some false, some false⟩, ⟨.frontwall, some .solidFluid, some .reflection, some .couplant, some true, some true⟩, ⟨.grid, none, none, none, some true, none⟩], [.couplant, .block, .block, .block], ['L', 'L', 'L', 'L']⟩, ⟨['T', 'L', 'T'], [⟨.probe, none, none, none, none, some true⟩, ⟨.frontwall, some .fluidSolid, some .transmission, none, some false, some true⟩, ⟨.backwall, some .solidFluid, some .reflection, some .couplant, some false, some false⟩, ⟨.frontwall, some .solidFluid, some .reflection, some .couplant, some true, some true⟩, ⟨.grid, none, none, none, some true, none⟩], [.couplant, .block, .block, .block], ['L', 'T', 'L', 'T']⟩, ['L', 'T']⟩,
  ⟨.immersion, ['L', 'L', 'L'], ['T', 'T', 'L'], ⟨['L', 'L', 'L'], [⟨.probe, none, none, none, none, some true⟩, ⟨.frontwall, some .fluidSolid, some .transmission, none, some false, some true⟩, ⟨.backwall, some .solidFluid, some .reflection, some .couplant, some false, some false⟩, ⟨.frontwall, some .solidFluid, some .reflection, some .couplant, some true, some true⟩, ⟨.grid, none, none, none, some true, none⟩], [.couplant, .block, .block, .block], ['L', 'L', 'L', 'L']⟩, ⟨['L', 'T', 'T'], [⟨.probe, none, none, none, none, some true⟩, ⟨.frontwall, some .fluidSolid, some .transmission, none, some false, some true⟩, ⟨.backwall, some .solidFluid, some .reflection, some .couplant, some false, some false⟩, ⟨.frontwall, some .solidFluid, some .reflection, some .couplant, some true, some true⟩, ⟨.grid, none, none, none, some true, none⟩], [.couplant, .block, .block, .block], ['L', 'L', 'T', 'T']⟩, ['L', 'T']⟩,
  ⟨.immersion, ['L', 'L', 'L'], ['T', 'T', 'T'], ⟨['L', 'L', 'L'], [⟨.probe, none, none, none, none, some true⟩, ⟨.frontwall, some .fluidSolid, some .transmission, none, some false, some true⟩, ⟨.backwall, some .solidFluid, some .reflection, some .couplant, some false, some false⟩, ⟨.frontwall, some .solidFluid, some .reflection, some .couplant, some true, some true⟩, ⟨.grid, none, none, none, some true, none⟩], [.couplant, .block, .block, .block], ['L', 'L', 'L', 'L']⟩, ⟨['T', 'T', 'T'], [⟨.probe, none, none, none, none, some true⟩, ⟨.frontwall, some .fluidSolid, some .transmission, none, some false, some true⟩, ⟨.backwall, some .solidFluid, some .reflection, some .couplant, some false, some false⟩, ⟨.frontwall, some .solidFluid, some .reflection, some .couplant, some true, some true⟩, ⟨.grid, none, none, none, some true, none⟩], [.couplant, .block, .block, .block], ['L', 'T', 'T', 'T']⟩, ['L', 'T']⟩,
  ⟨.immersion, ['L', 'L', 'T'], ['L', 'L', 'L'], ⟨['L', 'L', 'T'], [⟨.probe, none, none, none, none, some true⟩, ⟨.frontwall, some .fluidSolid, some .transmission, none, some false, some true⟩, ⟨.backwall, some .solidFluid, some .reflection, some .couplant, some false, some false⟩, ⟨.frontwall, some .solidFluid, some .reflection, some .couplant, some true, some true⟩, ⟨.grid, none, none, none, some true, none⟩], [.couplant, .block, .block, .block], ['L', 'L', 'L', 'T']⟩, ⟨['L', 'L', 'L'], [⟨.probe, none, none, none, none, some true⟩, ⟨.frontwall, some .fluidSolid, some .transmission, none, some false, some true⟩, ⟨.backwall, some .solidFluid, some .reflection, some .couplant, some false, some false⟩, ⟨.frontwall, some .solidFluid, some .reflection, some .couplant, some true, some true⟩, ⟨.grid, none, none, none, some true, none⟩], [.couplant, .block, .block, .block], ['L', 'L', 'L', 'L']⟩, ['T', 'L']⟩,
  ⟨.immersion, ['L', 'L', 'T'], ['L', 'L', 'T'], ⟨['L', 'L', 'T'], [⟨.probe, none, none, none, none, some true⟩, ⟨.frontwall, some .fluidSolid, some .transmission, none, some false, some true⟩, ⟨.backwall, some .solidFluid, some .reflection, some .couplant, some false, some false⟩, ⟨.frontwall, some .solidFluid, some .reflection, some .couplant, some true, some true⟩, ⟨.grid, none, none, none, some true, none⟩], [.couplant, .block, .block, .block], ['L', 'L', 'L', 'T']⟩, ⟨['T', 'L', 'L'], [⟨.probe, none, none, none, none, some true⟩, ⟨.frontwall, some .fluidSolid, some .transmission, none, some false, some true⟩, ⟨.backwall, some .solidFluid, some .reflection, some .couplant, some false, some false⟩, ⟨.frontwall, some .solidFluid, some .reflection, some .couplant, some true, some true⟩, ⟨.grid, none, none, none, some true, none⟩], [.couplant, .block, .block, .block], ['L', 'T', 'L', 'L']⟩, ['T', 'L']⟩,
  ⟨.immersion, ['L', 'L', 'T'], ['L', 'T', 'L'], ⟨['L', 'L', 'T'], [⟨.probe, none, none, none, none, some true⟩, ⟨.frontwall, some .fluidSolid, some .transmission, none, some false, some true⟩, ⟨.backwall, some .solidFluid, some .reflection, some .couplant, some false, some false⟩, ⟨.frontwall, some .solidFluid, some .reflection, some .couplant, some true, some true⟩, ⟨.grid, none, none, none, some true, none⟩], [.couplant, .block, .block, .block], ['L', 'L', 'L', 'T']⟩, ⟨['L', 'T', 'L'], [⟨.probe, none, none, none, none, some true⟩, ⟨.frontwall, some .fluidSolid, some .transmission, none, some false, some true⟩, ⟨.backwall, some .solidFluid, some .reflection, some .couplant, some false, some false⟩, ⟨.frontwall, some .solidFluid, some .reflection, some .couplant, some true, some true⟩, ⟨.grid, none, none, none, some true, none⟩], [.couplant, .block, .block, .block], ['L', 'L', 'T', 'L']⟩, ['T', 'L']⟩,
  ⟨.immersion, ['L', 'L', 'T'], ['L', 'T', 'T'], ⟨['L', 'L', 'T'], [⟨.probe, none, none, none, none, some true⟩, ⟨.frontwall, some .fluidSolid, some .transmission, none, some false, some true⟩, ⟨.backwall, some .solidFluid, some .reflection, some .couplant, some false, some false⟩, ⟨.frontwall, some .solidFluid, some .reflection, some .couplant, some true, some true⟩, ⟨.grid, none, none, none, some true, none⟩], [.couplant, .block, .block, .block], ['L', 'L', 'L', 'T']⟩, ⟨['T', 'T', 'L'], [⟨.probe, none, none, none, none, some true⟩, ⟨.frontwall, some .fluidSolid, some .transmission, none, some false, some true⟩, ⟨.backwall, some .solidFluid, some .reflection, some .couplant, some false, some false⟩, ⟨.frontwall, some .solidFluid, some .reflection, some .couplant, some true, some true⟩, ⟨.grid, none, none, none, some true, none⟩], [.couplant, .block, .block, .block], ['L', 'T', 'T', 'L']⟩, ['T', 'L']⟩,
  ⟨.immersion, ['L', 'L', 'T'], ['T', 'L', 'L'], ⟨['L', 'L', 'T'], [⟨.probe, none, none, none, none, some true⟩, ⟨.frontwall, some .fluidSolid, some .transmission, none, some false, some true⟩, ⟨.backwall, some .solidFluid, some .reflection, some .couplant, some false, some false⟩, ⟨.frontwall, some .solidFluid, some .reflection, some .couplant, some true, some true⟩, ⟨.grid, none, none, none, some true, none⟩], [.couplant, .block, .block, .block], ['L', 'L', 'L', 'T']⟩, ⟨['L', 'L', 'T'], [⟨.probe, none, none, none, none, some true⟩, ⟨.frontwall, some .fluidSolid, some .transmission, none, some false, some true⟩, ⟨.backwall, some .solidFluid, some .reflection, some .couplant, some false, some false⟩, ⟨.frontwall, some .solidFluid, some .reflection, some .couplant, some true, some true⟩, ⟨.grid, none, none, none, some true, none⟩], [.couplant, .block, .block, .block], ['L', 'L', 'L', 'T']⟩, ['T', 'T']⟩,
  ⟨.immersion, ['L', 'L', 'T'], ['T', 'L', 'T'], ⟨['L', 'L', 'T'], [⟨.probe, none, none, none, none, some true⟩, ⟨.frontwall, some .fluidSolid, some .transmission, none, some false, some true⟩, ⟨.backwall, some .solidFluid, some .reflection, some .couplant, some false, some false⟩, ⟨.frontwall, some .solidFluid, some .reflection, some .couplant, some true, some true⟩, ⟨.grid, none, none, none, some true, none⟩], [.couplant, .block, .block, .block], ['L', 'L', 'L', 'T']⟩, ⟨['T', 'L', 'T'], [⟨.probe, none, none, none, none, some true⟩, ⟨.frontwall, some .fluidSolid, some .transmission, none, some false, some true⟩, ⟨.backwall, some .solidFluid, some .reflection, some .couplant, some false, some false⟩, ⟨.frontwall, some .solidFluid, some .reflection, some .couplant, some true, some true⟩, ⟨.grid, none, none, none, some true, none⟩], [.couplant, .block, .block, .block], ['L', 'T', 'L', 'T']⟩, ['T', 'T']⟩,
  ⟨.immersion, ['L', 'L', 'T'], ['T', 'T', 'L'], ⟨['L', 'L', 'T'], [⟨.probe, none, none, none, none, some true⟩, ⟨.frontwall, some .fluidSolid, some .transmission, none, some false, some true⟩, ⟨.backwall, some .solidFluid, some .reflection, some .couplant, some false, some false⟩, ⟨.frontwall, some .solidFluid, some .reflection, some .couplant, some true, some true⟩, ⟨.grid, none, none, none, some true, none⟩], [.couplant, .block, .block, .block], ['L', 'L', 'L', 'T']⟩, ⟨['L', 'T', 'T'], [⟨.probe, none, none, none, none, some true⟩, ⟨.frontwall, some .fluidSolid, some .transmission, none, some false, some true⟩, ⟨.backwall, some .solidFluid, some .reflection, some .couplant, some false, some false⟩, ⟨.frontwall, some .solidFluid, some .reflection, some .couplant, some true, some true⟩, ⟨.grid, none, none, none, some true, none⟩], [.couplant, .block, .block, .block], ['L', 'L', 'T', 'T']⟩, ['T', 'T']⟩,
  ⟨.immersion, ['L', 'L', 'T'], ['T', 'T', 'T'], ⟨['L', 'L', 'T'], [⟨.probe, none, none, none, none, some true⟩, ⟨.frontwall, some .fluidSolid, some .transmission, none, some false, some true⟩, ⟨.backwall, some .solidFluid, some .reflection, some .couplant, some false, some false⟩, ⟨.frontwall, some .solidFluid, some .reflection, some .couplant, some true, some true⟩, ⟨.grid, none, none, none, some true, none⟩], [.couplant, .block, .block, .block], ['L', 'L', 'L', 'T']⟩, ⟨['T', 'T', 'T'], [⟨.probe, none, none, none, none, some true⟩, ⟨.frontwall, some .fluidSolid, some .transmission, none, some false, some true⟩, ⟨.backwall, some .solidFluid, some .reflection, some .couplant, some false, some false⟩, ⟨.frontwall, some .solidFluid, some .reflection, some .couplant, some true, some true⟩, ⟨.grid, none, none, none, some true, none⟩], [.couplant, .block, .block, .block], ['L', 'T', 'T', 'T']⟩, ['T', 'T']⟩,
  ⟨.immersion, ['L', 'T', 'L'], ['L', 'L', 'L'], ⟨['L', 'T', 'L'], [⟨.probe, none, none, none, none, some true⟩, ⟨.frontwall, some .fluidSolid, some .transmission, none, some false, some true⟩, ⟨.backwall, some .solidFluid, some .reflection, some .couplant, some false, some false⟩, ⟨.frontwall, some .solidFluid, some .reflection, some .couplant, some true, some true⟩, ⟨.grid, none, none, none, some true, none⟩], [.couplant, .block, .block, .block], ['L', 'L', 'T', 'L']⟩, ⟨['L', 'L', 'L'], [⟨.probe, none, none, none, none, some true⟩, ⟨.frontwall, some .fluidSolid, some .transmission, none, some false, some true⟩, ⟨.backwall, some .solidFluid, some .reflection, some .couplant, some false, some false⟩, ⟨.frontwall, some .solidFluid, some .reflection, some .couplant, some true, some true⟩, ⟨.grid, none, none, none, some true, none⟩], [.couplant, .block, .block, .block], ['L', 'L', 'L', 'L']⟩, ['L', 'L']⟩,
  ⟨.immersion, ['L', 'T', 'L'], ['L', 'L', 'T'], ⟨['L', 'T', 'L'], [⟨.probe, none, none, none, none, some true⟩, ⟨.frontwall, some .fluidSolid, some .transmission, none, some false, some true⟩, ⟨.backwall, some .solidFluid, some .reflection, some .couplant, some false, some false⟩, ⟨.frontwall, some .solidFluid, some .reflection, some .couplant, some true, some true⟩, ⟨.grid, none, none, none, some true, none⟩], [.couplant, .block, .block, .block], ['L', 'L', 'T', 'L']⟩, ⟨['T', 'L', 'L'], [⟨.probe, none, none, none, none, some true⟩, ⟨.frontwall, some .fluidSolid, some .transmission, none, some false, some true⟩, ⟨.backwall, some .solidFluid, some .reflection, some .couplant, some false, some false⟩, ⟨.frontwall, some .solidFluid, some .reflection, some .couplant, some true, some true⟩, ⟨.grid, none, none, none, some true, none⟩], [.couplant, .block, .block, .block], ['L', 'T', 'L', 'L']⟩, ['L', 'L']⟩,
  ⟨.immersion, ['L', 'T', 'L'], ['L', 'T', 'L'], ⟨['L', 'T', 'L'], [⟨.probe, none, none, none, none, some true⟩, ⟨.frontwall, some .fluidSolid, some .transmission, none, some false, some true⟩, ⟨.backwall, some .solidFluid, some .reflection, some .couplant, some false, some false⟩, ⟨.frontwall, some .solidFluid, some .reflection, some .couplant, some true, some true⟩, ⟨.grid, none, none, none, some true, none⟩], [.couplant, .block, .block, .block], ['L', 'L', 'T', 'L']⟩, ⟨['L', 'T', 'L'], [⟨.probe, none, none, none, none, some true⟩, ⟨.frontwall, some .fluidSolid, some .transmission, none, some false, some true⟩, ⟨.backwall, some .solidFluid, some .reflection, some .couplant, some false, some false⟩, ⟨.frontwall, some .solidFluid, some .reflection, some .couplant, some true, some true⟩, ⟨.grid, none, none, none, some true, none⟩], [.couplant, .block, .block, .block], ['L', 'L', 'T', 'L']⟩, ['L', 'L']⟩,
  ⟨.immersion, ['L', 'T', 'L'], ['L', 'T', 'T'], ⟨['L', 'T', 'L'], [⟨.probe, none, none, none, none, some true⟩, ⟨.frontwall, some .fluidSolid, some .transmission, none, some false, some true⟩, ⟨.backwall, some .solidFluid, some .reflection, some .couplant, some false, some false⟩, ⟨.frontwall, some .solidFluid, some .reflection, some .couplant, some true, some true⟩, ⟨.grid, none, none, none, some true, none⟩], [.couplant, .block, .block, .block], ['L', 'L', 'T', 'L']⟩, ⟨['T', 'T', 'L'], [⟨.probe, none, none, none, none, some true⟩, ⟨.frontwall, some .fluidSolid, some .transmission, none, some false, some true⟩, ⟨.backwall, some .solidFluid, some .reflection, some .couplant, some false, some false⟩, ⟨.frontwall, some .solidFluid, some .reflection, some .couplant, some true, some true⟩, ⟨.grid, none, none, none, some true, none⟩], [.couplant, .block, .block, .block], ['L', 'T', 'T', 'L']⟩, ['L', 'L']⟩,
  ⟨.immersion, ['L', 'T', 'L'], ['T', 'L', 'L'], ⟨['L', 'T', 'L'], [⟨.probe, none, none, none, none, some true⟩, ⟨.frontwall, some .fluidSolid, some .transmission, none, some false, some true⟩, ⟨.backwall, some .solidFluid, some .reflection, some .couplant, some false, some false⟩, ⟨.frontwall, some .solidFluid, some .reflection, some .couplant, some true, some true⟩, ⟨.grid, none, none, none, some true, none⟩], [.couplant, .block, .block, .block], ['L', 'L', 'T', 'L']⟩, ⟨['L', 'L', 'T'], [⟨.probe, none, none, none, none, some true⟩, ⟨.frontwall, some .fluidSolid, some .transmission, none, some false, some true⟩, ⟨.backwall, some .solidFluid, some .reflection, some .couplant, some false, some false⟩, ⟨.frontwall, some .solidFluid, some .reflection, some .couplant, some true, some true⟩, ⟨.grid, none, none, none, some true, none⟩], [.couplant, .block, .block, .block], ['L', 'L', 'L', 'T']⟩, ['L', 'T']⟩,
  ⟨.immersion, ['L', 'T', 'L'], ['T', 'L', 'T'], ⟨['L', 'T', 'L'], [⟨.probe, none, none, none, none, some true⟩, ⟨.frontwall, some .fluidSolid, some .transmission, none, some false, some true⟩, ⟨.backwall, some .solidFluid, some .reflection, some .couplant, some false, some false⟩, ⟨.frontwall, some .solidFluid, some .reflection, some .couplant, some true, some true⟩, ⟨.grid, none, none, none, some true, none⟩], [.couplant, .block, .block, .block], ['L', 'L', 'T', 'L']⟩, ⟨['T', 'L', 'T'], [⟨.probe, none, none, none, none, some true⟩, ⟨.frontwall, some .fluidSolid, some .transmission, none, some false, some true⟩, ⟨.backwall, some .solidFluid, some .reflection, some .couplant, some false, some false⟩, ⟨.frontwall, some .solidFluid, some .reflection, some .couplant, some true, some true⟩, ⟨.grid, none, none, none, some true, none⟩], [.couplant, .block, .block, .block], ['L', 'T', 'L', 'T']⟩, ['L', 'T']⟩,
  ⟨.immersion, ['L', 'T', 'L'], ['T', 'T', 'L'], ⟨['L', 'T', 'L'], [⟨.probe, none, none, none, none, some true⟩, ⟨.frontwall, some .fluidSolid, some .transmission, none, some false, some true⟩, ⟨.backwall, some .solidFluid, some .reflection, some .couplant, some false, some false⟩, ⟨.frontwall, some .solidFluid, some .reflection, some .couplant, some true, some true⟩, ⟨.grid, none, none, none, some true, none⟩], [.couplant, .block, .block, .block], ['L', 'L', 'T', 'L']⟩, ⟨['L', 'T', 'T'], [⟨.probe, none, none, none, none, some true⟩, ⟨.frontwall, some .fluidSolid, some .transmission, none, some false, some true⟩, ⟨.backwall, some .solidFluid, some .reflection, some .couplant, some false, some false⟩, ⟨.frontwall, some .solidFluid, some .reflection, some .couplant, some true, some true⟩, ⟨.grid, none, none, none, some true, none⟩], [.couplant, .block, .block, .block], ['L', 'L', 'T', 'T']⟩, ['L', 'T']⟩,
  ⟨.immersion, ['L', 'T', 'L'], ['T', 'T', 'T'], ⟨['L', 'T', 'L'], [⟨.probe, none, none, none, none, some true⟩, ⟨.frontwall, some .fluidSolid, some .transmission, none, some false, some true⟩, ⟨.backwall, some .solidFluid, some .reflection, some .couplant, some false, some false⟩, ⟨.frontwall, some .solidFluid, some .reflection, some .couplant, some true, some true⟩, ⟨.grid, none, none, none, some true, none⟩], [.couplant, .block, .block, .block], ['L', 'L', 'T', 'L']⟩, ⟨['T', 'T', 'T'], [⟨.probe, none, none, none, none, some true⟩, ⟨.frontwall, some .fluidSolid, some .transmission, none, some false, some true⟩, ⟨.backwall, some .solidFluid, some .reflection, some .couplant, some false, some false⟩, ⟨.frontwall, some .solidFluid, some .reflection, some .couplant, some true, some true⟩, ⟨.grid, none, none, none, some true, none⟩], [.couplant, .block, .block, .block], ['L', 'T', 'T', 'T']⟩, ['L', 'T']⟩,
  ⟨.immersion, ['L', 'T', 'T'], ['L', 'L', 'L'], ⟨['L', 'T', 'T'], [⟨.probe, none, none, none, none, some true⟩, ⟨.frontwall, some .fluidSolid, some .transmission, none, some false, some true⟩, ⟨.backwall, some .solidFluid, some .reflection, some .couplant, some false, some false⟩, ⟨.frontwall, some .solidFluid, some .reflection, some .couplant, some true, some true⟩, ⟨.grid, none, none, none, some true, none⟩], [.couplant, .block, .block, .block], ['L', 'L', 'T', 'T']⟩, ⟨['L', 'L', 'L'], [⟨.probe, none, none, none, none, some true⟩, ⟨.frontwall, some .fluidSolid, some .transmission, none, some false, some true⟩, ⟨.backwall, some .solidFluid, some .reflection, some .couplant, some false, some false⟩, ⟨.frontwall, some .solidFluid, some .reflection, some .couplant, some true, some true⟩, ⟨.grid, none, none, none, some true, none⟩], [.couplant, .block, .block, .block], ['L', 'L', 'L', 'L']⟩, ['T', 'L']⟩,
  ⟨.immersion, ['L', 'T', 'T'], ['L', 'L', 'T'], ⟨['L', 'T', 'T'], [⟨.probe, none, none, none, none, some true⟩, ⟨.frontwall, some .fluidSolid, some .transmission, none, some false, some true⟩, ⟨.backwall, some .solidFluid, some .reflection, some .couplant, some false, some false⟩, ⟨.frontwall, some .solidFluid, some .reflection, some .couplant, some true, some true⟩, ⟨.grid, none, none, none, some true, none⟩], [.couplant, .block, .block, .block], ['L', 'L', 'T', 'T']⟩, ⟨['T', 'L', 'L'], [⟨.probe, none, none, none, none, some true⟩, ⟨.frontwall, some .fluidSolid, some .transmission, none, some false, some true⟩, ⟨.backwall, some .solidFluid, some .reflection, some .couplant, some false, some false⟩, ⟨.frontwall, some .solidFluid, some .reflection, some .couplant, some true, some true⟩, ⟨.grid, none, none, none, some true, none⟩], [.couplant, .block, .block, .block], ['L', 'T', 'L', 'L']⟩, ['T', 'L']⟩,
  ⟨.immersion, ['L', 'T', 'T'], ['L', 'T', 'L'], ⟨['L', 'T', 'T'], [⟨.probe, none, none, none, none, some true⟩, ⟨.frontwall, some .fluidSolid, some .transmission, none, some false, some true⟩, ⟨.backwall, some .solidFluid, some .reflection, some .couplant, some false, some false⟩, ⟨.frontwall, some .solidFluid, some .reflection, some .couplant, some true, some true⟩, ⟨.grid, none, none, none, some true, none⟩], [.couplant, .block, .block, .block], ['L', 'L', 'T', 'T']⟩, ⟨['L', 'T', 'L'], [⟨.probe, none, none, none, none, some true⟩, ⟨.frontwall, some .fluidSolid, some .transmission, none, some false, some true⟩, ⟨.backwall, some .solidFluid, some .reflection, some .couplant, some false, some false⟩, ⟨.frontwall, some .solidFluid, some .reflection, some .couplant, some true, some true⟩, ⟨.grid, none, none, none, some true, none⟩], [.couplant, .block, .block, .block], ['L', 'L', 'T', 'L']⟩, ['T', 'L']⟩,
  ⟨.immersion, ['L', 'T', 'T'], ['L', 'T', 'T'], ⟨['L', 'T', 'T'], [⟨.probe, none, none, none, none, some true⟩, ⟨.frontwall, some .fluidSolid, some .transmission, none, some false, some true⟩, ⟨.backwall, some .solidFluid, some .reflection, some .couplant, some false, some false⟩, ⟨.frontwall, some .solidFluid, some .reflection, some .couplant, some true, some true⟩, ⟨.grid, none, none, none, some true, none⟩], [.couplant, .block, .block, .block], ['L', 'L', 'T', 'T']⟩, ⟨['T', 'T', 'L'], [⟨.probe, none, none, none, none, some true⟩, ⟨.frontwall, some .fluidSolid, some .transmission, none, some false, some true⟩, ⟨.backwall, some .solidFluid, some .reflection, some .couplant, some false, some false⟩, ⟨.frontwall, some .solidFluid, some .reflection, some .couplant, some true, some true⟩, ⟨.grid, none, none, none, some true, none⟩], [.couplant, .block, .block, .block], ['L', 'T', 'T', 'L']⟩, ['T', 'L']⟩
]

def table4 : List ViewEntry := [
  ⟨.immersion, ['L', 'T', 'T'], ['T', 'L', 'L'], ⟨['L', 'T', 'T'], [⟨.probe, none, none, none, none, some true⟩, ⟨.frontwall, some .fluidSolid, some .transmission, none, some false, some true⟩, ⟨.backwall, some .solidFluid, some .reflection, some .couplant, some false, some false⟩, ⟨.frontwall, some .solidFluid, some .reflection, some .couplant, some true, some true⟩, ⟨.grid, none, none, none, some true, none⟩], [.couplant, .block, .block, .block], ['L', 'L', 'T', 'T']⟩, ⟨['L', 'L', 'T'], [⟨.probe, none, none, none, none, some true⟩, ⟨.frontwall, some .fluidSolid, some .transmission, none, some false, some true⟩, ⟨.backwall, some .solidFluid, some .reflection, some .couplant, some false, some false⟩, ⟨.frontwall, some .solidFluid, some .reflection, some .couplant, some true, some true⟩, ⟨.grid, none, none, none, some true, none⟩], [.couplant, .block, .block, .block], ['L', 'L', 'L', 'T']⟩, ['T', 'T']⟩,
  ⟨.immersion, ['L', 'T', 'T'], ['T', 'L', 'T'], ⟨['L', 'T', 'T'], [⟨.probe, none, none, none, none, some true⟩, ⟨.frontwall, some .fluidSolid, some .transmission, none, some false, some true⟩, ⟨.backwall, some .solidFluid, some .reflection, some .couplant, some false, some false⟩, ⟨.frontwall, some .solidFluid, some .reflection, some .couplant, some true, some true⟩, ⟨.grid, none, none, none, some true, none⟩], [.couplant, .block, .block, .block], ['L', 'L', 'T', 'T']⟩, ⟨['T', 'L', 'T'], [⟨.probe, none, none, none, none, some true⟩, ⟨.frontwall, some .fluidSolid, some .transmission, none, some false, some true⟩, ⟨.backwall, some .solidFluid, some .reflection, some .couplant, some false, some false⟩, ⟨.frontwall, some .solidFluid, some .reflection, some .couplant, some true, some true⟩, ⟨.grid, none, none, none, some true, none⟩], [.couplant, .block, .block, .block], ['L', 'T', 'L', 'T']⟩, ['T', 'T']⟩,
  ⟨.immersion, ['L', 'T', 'T'], ['T', 'T', 'L'], ⟨['L', 'T', 'T'], [⟨.probe, none, none, none, none, some true⟩, ⟨.frontwall, some .fluidSolid, some .transmission, none, some false, some true⟩, ⟨.backwall, some .solidFluid, some .reflection, some .couplant, some false, some false⟩, ⟨.frontwall, some .solidFluid, some .reflection, some .couplant, some true, some true⟩, ⟨.grid, none, none, none, some true, none⟩], [.couplant, .block, .block, .block], ['L', 'L', 'T', 'T']⟩, ⟨['L', 'T', 'T'], [⟨.probe, none, none, none, none, some true⟩, ⟨.frontwall, some .fluidSolid, some .transmission, none, some false, some true⟩, ⟨.backwall, some .solidFluid, some .reflection, some .couplant, some false, some false⟩, ⟨.frontwall, some .solidFluid, some .reflection, some .couplant, some true, some true⟩, ⟨.grid, none, none, none, some true, none⟩], [.couplant, .block, .block, .block], ['L', 'L', 'T', 'T']⟩, ['T', 'T']⟩,
  ⟨.immersion, ['L', 'T', 'T'], ['T', 'T', 'T'], ⟨['L', 'T', 'T'], [⟨.probe, none, none, none, none, some true⟩, ⟨.frontwall, some .fluidSolid, some .transmission, none, some false, some true⟩, ⟨.backwall, some .solidFluid, some .reflection, some .couplant, some false, some false⟩, ⟨.frontwall, some .solidFluid, some .reflection, some .couplant, some true, some true⟩, ⟨.grid, none, none, none, some true, none⟩], [.couplant, .block, .block, .block], ['L', 'L', 'T', 'T']⟩, ⟨['T', 'T', 'T'], [⟨.probe, none, none, none, none, some true⟩, ⟨.frontwall, some .fluidSolid, some .transmission, none, some false, some true⟩, ⟨.backwall, some .solidFluid, some .reflection, some .couplant, some false, some false⟩, ⟨.frontwall, some .solidFluid, some .reflection, some .couplant, some true, some true⟩, ⟨.grid, none, none, none, some true, none⟩], [.couplant, .block, .block, .block], ['L', 'T', 'T', 'T']⟩, ['T', 'T']⟩,
  ⟨.immersion, ['T', 'L', 'L'], ['L', 'L', 'L'], ⟨['T', 'L', 'L'], [⟨.probe, none, none, none, none, some true⟩, ⟨.frontwall, some .fluidSolid, some .transmission, none, some false, some true⟩, ⟨.backwall, some .solidFluid, some .reflection, some .couplant, some false, some false⟩, ⟨.frontwall, some .solidFluid, some .reflection, some .couplant, some true, some true⟩, ⟨.grid, none, none, none, some true, none⟩], [.couplant, .block, .block, .block], ['L', 'T', 'L', 'L']⟩, ⟨['L', 'L', 'L'], [⟨.probe, none, none, none, none, some true⟩, ⟨.frontwall, some .fluidSolid, some .transmission, none, some false, some true⟩, ⟨.backwall, some .solidFluid, some .reflection, some .couplant, some false, some false⟩, ⟨.frontwall, some .solidFluid, some .reflection, some .couplant, some true, some true⟩, ⟨.grid, none, none, none, some true, none⟩], [.couplant, .block, .block, .block], ['L', 'L', 'L', 'L']⟩, ['L', 'L']⟩,
  ⟨.immersion, ['T', 'L', 'L'], ['L', 'L', 'T'], ⟨['T', 'L', 'L'], [⟨.probe, none, none, none, none, some true⟩, ⟨.frontwall, some .fluidSolid, some .transmission, none, some false, some true⟩, ⟨.backwall, some .solidFluid, some .reflection, some .couplant, some false, some false⟩, ⟨.frontwall, some .solidFluid, some .reflection, some .couplant, some true, some true⟩, ⟨.grid, none, none, none, some true, none⟩], [.couplant, .block, .block, .block], ['L', 'T', 'L', 'L']⟩, ⟨['T', 'L', 'L'], [⟨.probe, none, none, none, none, some true⟩, ⟨.frontwall, some .fluidSolid, some .transmission, none, some false, some true⟩, ⟨.backwall, some .solidFluid, some .reflection, some .couplant, some false, some false⟩, ⟨.frontwall, some .solidFluid, some .reflection, some .couplant, some true, some true⟩, ⟨.grid, none, none, none, some true, none⟩], [.couplant, .block, .block, .block], ['L', 'T', 'L', 'L']⟩, ['L', 'L']⟩,
  ⟨.immersion, ['T', 'L', 'L'], ['L', 'T', 'L'], ⟨['T', 'L', 'L'], [⟨.probe, none, none, none, none, some true⟩, ⟨.frontwall, some .fluidSolid, some .transmission, none, some false, some true⟩, ⟨.backwall, some .solidFluid, some .reflection, some .couplant, some false, some false⟩, ⟨.frontwall, some .solidFluid, some .reflection, some .couplant, some true, some true⟩, ⟨.grid, none, none, none, some true, none⟩], [.couplant, .block, .block, .block], ['L', 'T', 'L', 'L']⟩, ⟨['L', 'T', 'L'], [⟨.probe, none, none, none, none, some true⟩, ⟨.frontwall, some .fluidSolid, some .transmission, none, some false, some true⟩, ⟨.backwall, some .solidFluid, some .reflection, some .couplant, some false, some false⟩, ⟨.frontwall, some .solidFluid, some .reflection, some .couplant, some true, some true⟩, ⟨.grid, none, none, none, some true, none⟩], [.couplant, .block, .block, .block], ['L', 'L', 'T', 'L']⟩, ['L', 'L']⟩,
  ⟨.immersion, ['T', 'L', 'L'], ['L', 'T', 'T'], ⟨['T', 'L', 'L'], [⟨.probe, none, none, none, none, some true⟩, ⟨.frontwall, some .fluidSolid, some .transmission, none, some false, some true⟩, ⟨.backwall, some .solidFluid, some .reflection, some .couplant, some false, some false⟩, ⟨.frontwall, some .solidFluid, some .reflection, some .couplant, some true, some true⟩, ⟨.grid, none, none, none, some true, none⟩], [.couplant, .block, .block, .block], ['L', 'T', 'L', 'L']⟩, ⟨['T', 'T', 'L'], [⟨.probe, none, none, none, none, some true⟩, ⟨.frontwall, some .fluidSolid, some .transmission, none, some false, some true⟩, ⟨.backwall, some .solidFluid, some .reflection, some .couplant, some false, some false⟩, ⟨.frontwall, some .solidFluid, some .reflection, some .couplant, some true, some true⟩, ⟨.grid, none, none, none, some true, none⟩], [.couplant, .block, .block, .block], ['L', 'T', 'T', 'L']⟩, ['L', 'L']⟩,
  ⟨.immersion, ['T', 'L', 'L'], ['T', 'L', 'L'], ⟨['T', 'L', 'L'], [⟨.probe, none, none, none, none, some true⟩, ⟨.frontwall, some .fluidSolid, some .transmission, none, some false, some true⟩, ⟨.backwall, some .solidFluid, some .reflection, some .couplant, some false, some false⟩, ⟨.frontwall, some .solidFluid, some .reflection, some .couplant, some true, some true⟩, ⟨.grid, none, none, none, some true, none⟩], [.couplant, .block, .block, .block], ['L', 'T', 'L', 'L']⟩, ⟨['L', 'L', 'T'], [⟨.probe, none, none, none, none, some true⟩, ⟨.frontwall, some .fluidSolid, some .transmission, none, some false, some true⟩, ⟨.backwall, some .solidFluid, some .reflection, some .couplant, some false, some false⟩, ⟨.frontwall, some .solidFluid, some .reflection, some .couplant, some true, some true⟩, ⟨.grid, none, none, none, some true, none⟩], [.couplant, .block, .block, .block], ['L', 'L', 'L', 'T']⟩, ['L', 'T']⟩,
  ⟨.immersion, ['T', 'L', 'L'], ['T', 'L', 'T'], ⟨['T', 'L', 'L'], [⟨.probe, none, none, none, none, some true⟩, ⟨.frontwall, some .fluidSolid, some .transmission, none, some false, some true⟩, ⟨.backwall, some .solidFluid, some .reflection, some .couplant, some false, some false⟩, ⟨.frontwall, some .solidFluid, some .reflection, some .couplant, some true, some true⟩, ⟨.grid, none, none, none, some true, none⟩], [.couplant, .block, .block, .block], ['L', 'T', 'L', 'L']⟩, ⟨['T', 'L', 'T'], [⟨.probe, none, none, none, none, some true⟩, ⟨.frontwall, some .fluidSolid, some .transmission, none, some false, some true⟩, ⟨.backwall, some .solidFluid, some .reflection, some .couplant, some false, some false⟩, ⟨.frontwall, some .solidFluid, some .reflection, some .couplant, some true, some true⟩, ⟨.grid, none, none, none, some true, none⟩], [.couplant, .block, .block, .block], ['L', 'T', 'L', 'T']⟩, ['L', 'T']⟩,
  ⟨.immersion, ['T', 'L', 'L'], ['T', 'T', 'L'], ⟨['T', 'L', 'L'], [⟨.probe, none, none, none, none, some true⟩, ⟨.frontwall, some .fluidSolid, some .transmission, none, some false, some true⟩, ⟨.backwall, some .solidFluid, some .reflection, some .couplant, some false, some false⟩, ⟨.frontwall, some .solidFluid, some .reflection, some .couplant, some true, some true⟩, ⟨.grid, none, none, none, some true, none⟩], [.couplant, .block, .block, .block], ['L', 'T', 'L', 'L']⟩, ⟨['L', 'T', 'T'], [⟨.probe, none, none, none, none, some true⟩, ⟨.frontwall, some .fluidSolid, some .transmission, none, some false, some true⟩, ⟨.backwall, some .solidFluid, some .reflection, some .couplant, some false, some false⟩, ⟨.frontwall, some .solidFluid, some .reflection, some .couplant, some true, some true⟩, ⟨.grid, none, none, none, some true, none⟩], [.couplant, .block, .block, .block], ['L', 'L', 'T', 'T']⟩, ['L', 'T']⟩,
  ⟨.immersion, ['T', 'L', 'L'], ['T', 'T', 'T'], ⟨['T', 'L', 'L'], [⟨.probe, none, none, none, none, some true⟩, ⟨.frontwall, some .fluidSolid, some .transmission, none, some false, some true⟩, ⟨.backwall, some .solidFluid, some .reflection, some .couplant, some false, some false⟩, ⟨.frontwall, some .solidFluid, some .reflection, some .couplant, some true, some true⟩, ⟨.grid, none, none, none, some true, none⟩], [.couplant, .block, .block, .block], ['L', 'T', 'L', 'L']⟩, ⟨['T', 'T', 'T'], [⟨.probe, none, none, none, none, some true⟩, ⟨.frontwall, some .fluidSolid, some .transmission, none, some false, some true⟩, ⟨.backwall, some .solidFluid, some .reflection, some .couplant, some false, some false⟩, ⟨.frontwall, some .solidFluid, some .reflection, some .couplant, some true, some true⟩, ⟨.grid, none, none, none, some true, none⟩], [.couplant, .block, .block, .block], ['L', 'T', 'T', 'T']⟩, ['L', 'T']⟩,
  ⟨.immersion, ['T', 'L', 'T'], ['L', 'L', 'L'], ⟨['T', 'L', 'T'], [⟨.probe, none, none, none, none, some true⟩, ⟨.frontwall, some .fluidSolid, some .transmission, none, some false, some true⟩, ⟨.backwall, some .solidFluid, some .reflection, some .couplant, some false, some false⟩, ⟨.frontwall, some .solidFluid, some .reflection, some .couplant, some true, some true⟩, ⟨.grid, none, none, none, some true, none⟩], [.couplant, .block, .block, .block], ['L', 'T', 'L', 'T']⟩, ⟨['L', 'L', 'L'], [⟨.probe, none, none, none, none, some true⟩, ⟨.frontwall, some .fluidSolid, some .transmission, none, some false, some true⟩, ⟨.backwall, some .solidFluid, some .reflection, some .couplant, some false, some false⟩, ⟨.frontwall, some .solidFluid, some .reflection, some .couplant, some true, some true⟩, ⟨.grid, none, none, none, some true, none⟩], [.couplant, .block, .block, .block], ['L', 'L', 'L', 'L']⟩, ['T', 'L']⟩,
  ⟨.immersion, ['T', 'L', 'T'], ['L', 'L', 'T'], ⟨['T', 'L', 'T'], [⟨.probe, none, none, none, none, some true⟩, ⟨.frontwall, some .fluidSolid, some .transmission, none, some false, some true⟩, ⟨.backwall, some .solidFluid, some .reflection, some .couplant, some false, some false⟩, ⟨.frontwall, some .solidFluid, some .reflection, some .couplant, some true, some true⟩, ⟨.grid, none, none, none, some true, none⟩], [.couplant, .block, .block, .block], ['L', 'T', 'L', 'T']⟩, ⟨['T', 'L', 'L'], [⟨.probe, none, none, none, none, some true⟩, ⟨.frontwall, some .fluidSolid, some .transmission, none, some false, some true⟩, ⟨.backwall, some .solidFluid, some .reflection, some .couplant, some false, some false⟩, ⟨.frontwall, some .solidFluid, some .reflection, some .couplant, some true, some true⟩, ⟨.grid, none, none, none, some true, none⟩], [.couplant, .block, .block, .block], ['L', 'T', 'L', 'L']⟩, ['T', 'L']⟩,
  ⟨.immersion, ['T', 'L', 'T'], ['L', 'T', 'L'], ⟨['T', 'L', 'T'], [⟨.probe, none, none, none, none, some true⟩, ⟨.frontwall, some .fluidSolid, some .transmission, none, some false, some true⟩, ⟨.backwall, some .solidFluid, some .reflection, some .couplant, some false, some false⟩, ⟨.frontwall, some .solidFluid, some .reflection, some .couplant, some true, some true⟩, ⟨.grid, none, none, none, some true, none⟩], [.couplant, .block, .block, .block], ['L', 'T', 'L', 'T']⟩, ⟨['L', 'T', 'L'], [⟨.probe, none, none, none, none, some true⟩, ⟨.frontwall, some .fluidSolid, some .transmission, none, some false, some true⟩, ⟨.backwall, some .solidFluid, some .reflection, some .couplant, some false, some false⟩, ⟨.frontwall, some .solidFluid, some .reflection, some .couplant, some true, some true⟩, ⟨.grid, none, none, none, some true, none⟩], [.couplant, .block, .block, .block], ['L', 'L', 'T', 'L']⟩, ['T', 'L']⟩,
  ⟨.immersion, ['T', 'L', 'T'], ['L', 'T', 'T'], ⟨['T', 'L', 'T'], [⟨.probe, none, none, none, none, some true⟩, ⟨.frontwall, some .fluidSolid, some .transmission, none, some false, some true⟩, ⟨.backwall, some .solidFluid, some .reflection, some .couplant, some false, some false⟩, ⟨.frontwall, some .solidFluid, some .reflection, some .couplant, some true, some true⟩, ⟨.grid, none, none, none, some true, none⟩], [.couplant, .block, .block, .block], ['L', 'T', 'L', 'T']⟩, ⟨['T', 'T', 'L'], [⟨.probe, none, none, none, none, some true⟩, ⟨.frontwall, some .fluidSolid, some .transmission, none, some false, some true⟩, ⟨.backwall, some .solidFluid, some .reflection, some .couplant, some false, some false⟩, ⟨.frontwall, some .solidFluid, some .reflection, some .couplant, some true, some true⟩, ⟨.grid, none, none, none, some true, none⟩], [.couplant, .block, .block, .block], ['L', 'T', 'T', 'L']⟩, ['T', 'L']⟩,
  ⟨.immersion, ['T', 'L', 'T'], ['T', 'L', 'L'], ⟨['T', 'L', 'T'], [⟨.probe, none, none, none, none, some true⟩, ⟨.frontwall, some .fluidSolid, some .transmission, none, some false, some true⟩, ⟨.backwall, some .solidFluid, some .reflection, some .couplant, some false, some false⟩, ⟨.frontwall, some .solidFluid, some .reflection, some .couplant, some true, some true⟩, ⟨.grid, none, none, none, some true, none⟩], [.couplant, .block, .block, .block], ['L', 'T', 'L', 'T']⟩, ⟨['L', 'L', 'T'], [⟨.probe, none, none, none, none, some true⟩, ⟨.frontwall, some .fluidSolid, some .transmission, none, some false, some true⟩, ⟨.backwall, some .solidFluid, some .reflection, some .couplant, some false, some false⟩, ⟨.frontwall, some .solidFluid, some .reflection, some .couplant, some true, some true⟩, ⟨.grid, none, none, none, some true, none⟩], [.couplant, .block, .block, .block], ['L', 'L', 'L', 'T']⟩, ['T', 'T']⟩,
  ⟨.immersion, ['T', 'L', 'T'], ['T', 'L', 'T'], ⟨['T', 'L', 'T'], [⟨.probe, none, none, none, none, some true⟩, ⟨.frontwall, some .fluidSolid, some .transmission, none, some false, some true⟩, ⟨.backwall, some .solidFluid, some .reflection, some .couplant, some false, some false⟩, ⟨.frontwall, some .solidFluid, some .reflection, some .couplant, some true, some true⟩, ⟨.grid, none, none, none, some true, none⟩], [.couplant, .block, .block, .block], ['L', 'T', 'L', 'T']⟩, ⟨['T', 'L', 'T'], [⟨.probe, none, none, none, none, some true⟩, ⟨.frontwall, some .fluidSolid, some .transmission, none, some false, some true⟩, ⟨.backwall, some .solidFluid, some .reflection, some .couplant, some false, some false⟩, ⟨.frontwall, some .solidFluid, some .reflection, some .couplant, some true, some true⟩, ⟨.grid, none, none, none, some true, none⟩], [.couplant, .block, .block, .block], ['L', 'T', 'L', 'T']⟩, ['T', 'T']⟩,
  ⟨.immersion, ['T', 'L', 'T'], ['T', 'T', 'L'], ⟨['T', 'L', 'T'], [⟨.probe, none, none, none, none, some true⟩, ⟨.frontwall, some .fluidSolid, some .transmission, none, some false, some true⟩, ⟨.backwall, some .solidFluid, some .reflection, some .couplant, some false, some false⟩, ⟨.frontwall, some .solidFluid, some .reflection, some .couplant, some true, some true⟩, ⟨.grid, none, none, none, some true, none⟩], [.couplant, .block, .block, .block], ['L', 'T', 'L', 'T']⟩, ⟨['L', 'T', 'T'], [⟨.probe, none, none, none, none, some true⟩, ⟨.frontwall, some .fluidSolid, some .transmission, none, some false, some true⟩, ⟨.backwall, some .solidFluid, some .reflection, some .couplant, some false, some false⟩, ⟨.frontwall, some .solidFluid, some .reflection, some .couplant, some true, some true⟩, ⟨.grid, none, none, none, some true, none⟩], [.couplant, .block, .block, .block], ['L', 'L', 'T', 'T']⟩, ['T', 'T']⟩,
  ⟨.immersion, ['T', 'L', 'T'], ['T', 'T', 'T'], ⟨['T', 'L', 'T'], [⟨.probe, none, none, none, none, some true⟩, ⟨.frontwall, some .fluidSolid, some .transmission, none, some false, some true⟩, ⟨.backwall, some .solidFluid, some .reflection, some .couplant, some false, some false⟩, ⟨.frontwall, some .solidFluid, some .reflection, some .couplant, some true, some true⟩, ⟨.grid, none, none, none, some true, none⟩], [.couplant, .block, .block, .block], ['L', 'T', 'L', 'T']⟩, ⟨['T', 'T', 'T'], [⟨.probe, none, none, none, none, some true⟩, ⟨.frontwall, some .fluidSolid, some .transmission, none, some false, some true⟩, ⟨.backwall, some .solidFluid, some .reflection, some .couplant, some false, some false⟩, ⟨.frontwall, some .solidFluid, some .reflection, some .couplant, some true, some true⟩, ⟨.grid, none, none, none, some true, none⟩], [.couplant, .block, .block, .block], ['L', 'T', 'T', 'T']⟩, ['T', 'T']⟩,
  ⟨.immersion, ['T', 'T', 'L'], ['L', 'L', 'L'], ⟨['T', 'T', 'L'], [⟨.probe, none, none, none, none, some true⟩, ⟨.frontwall, some .fluidSolid, some .transmission, none, some false, some true⟩, ⟨.backwall, some .solidFluid, some .reflection, some .couplant, some false, some false⟩, ⟨.frontwall, some .solidFluid, some .reflection, some .couplant, some true, some true⟩, ⟨.grid, none, none, none, some true, none⟩], [.couplant, .block, .block, .block], ['L', 'T', 'T', 'L']⟩, ⟨['L', 'L', 'L'], [⟨.probe, none, none, none, none, some true⟩, ⟨.frontwall, some .fluidSolid, some .transmission, none, some false, some true⟩, ⟨.backwall, some .solidFluid, some .reflection, some .couplant, some false, some false⟩, ⟨.frontwall, some .solidFluid, some .reflection, some .couplant, some true, some true⟩, ⟨.grid, none, none, none, some true, none⟩], [.couplant, .block, .block, .block], ['L', 'L', 'L', 'L']⟩, ['L', 'L']⟩,
  ⟨.immersion, ['T', 'T', 'L'], ['L', 'L', 'T'], ⟨['T', 'T', 'L'], [⟨.probe, none, none, none, none, some true⟩, ⟨.frontwall, some .fluidSolid, some .transmission, none, some false, some true⟩, ⟨.backwall, some .solidFluid, some .reflection, some .couplant, some false, some false⟩, ⟨.frontwall, some .solidFluid, some .reflection, some .couplant, some true, some true⟩, ⟨.grid, none, none, none, some true, none⟩], [.couplant, .block, .block, .block], ['L', 'T', 'T', 'L']⟩, ⟨['T', 'L', 'L'], [⟨.probe, none, none, none, none, some true⟩, ⟨.frontwall, some .fluidSolid, some .transmission, none, some false, some true⟩, ⟨.backwall, some .solidFluid, some .reflection, some .couplant, some false, some false⟩, ⟨.frontwall, some .solidFluid, some .reflection, some .couplant, some true, some true⟩, ⟨.grid, none, none, none, some true, none⟩], [.couplant, .block, .block, .block], ['L', 'T', 'L', 'L']⟩, ['L', 'L']⟩,
  ⟨.immersion, ['T', 'T', 'L'], ['L', 'T', 'L'], ⟨['T', 'T', 'L'], [⟨.probe, none, none, none, none, some true⟩, ⟨.frontwall, some .fluidSolid, some .transmission, none, some false, some true⟩, ⟨.backwall, some .solidFluid, some .reflection, some .couplant, some false, some false⟩, ⟨.frontwall, some .solidFluid, some .reflection, some .couplant, some true, some true⟩, ⟨.grid, none, none, none, some true, none⟩], [.couplant, .block, .block, .block], ['L', 'T', 'T', 'L']⟩, ⟨['L', 'T', 'L'], [⟨.probe, none, none, none, none, some true⟩, ⟨.frontwall, some .fluidSolid, some .transmission, none, some false, some true⟩, ⟨.backwall, some .solidFluid, some .reflection, some .couplant, some false, some false⟩, ⟨.frontwall, some .solidFluid, some .reflection, some .couplant, some true, some true⟩, ⟨.grid, none, none, none, some true, none⟩], [.couplant, .block, .block, .block], ['L', 'L', 'T', 'L']⟩, ['L', 'L']⟩,
  ⟨.immersion, ['T', 'T', 'L'], ['L', 'T', 'T'], ⟨['T', 'T', 'L'], [⟨.probe, none, none, none, none, some true⟩, ⟨.frontwall, some .fluidSolid, some .transmission, none, some false, some true⟩, ⟨.backwall, some .solidFluid, some .reflection, some .couplant, some false, some false⟩, ⟨.frontwall, some .solidFluid, some .reflection, some .couplant, some true, some true⟩, ⟨.grid, none, none, none, some true, none⟩], [.couplant, .block, .block, .block], ['L', 'T', 'T', 'L']⟩, ⟨['T', 'T', 'L'], [⟨.probe, none, none, none, none, some true⟩, ⟨.frontwall, some .fluidSolid, some .transmission, none, some false, some true⟩, ⟨.backwall, some .solidFluid, some .reflection, some .couplant, some false, some false⟩, ⟨.frontwall, some .solidFluid, some .reflection, some .couplant, some true, some true⟩, ⟨.grid, none, none, none, some true, none⟩], [.couplant, .block, .block, .block], ['L', 'T', 'T', 'L']⟩, ['L', 'L']⟩,
  ⟨.immersion, ['T', 'T', 'L'], ['T', 'L', 'L'], ⟨['T', 'T', 'L'], [⟨.probe, none, none, none, none, some true⟩, ⟨.frontwall, some .fluidSolid, some .transmission, none, some false, some true⟩, ⟨.backwall, some .solidFluid, some .reflection, some .couplant, some false, some false⟩, ⟨.frontwall, some .solidFluid, some .reflection, some .couplant, some true, some true⟩, ⟨.grid, none, none, none, some true, none⟩], [.couplant, .block, .block, .block], ['L', 'T', 'T', 'L']⟩, ⟨['L', 'L', 'T'], [⟨.probe, none, none, none, none, some true⟩, ⟨.frontwall, some .fluidSolid, some .transmission, none, some false, some true⟩, ⟨.backwall, some .solidFluid, some .reflection, some .couplant, some false, some false⟩, ⟨.frontwall, some .solidFluid, some .reflection, some .couplant, some true, some true⟩, ⟨.grid, none, none, none, some true, none⟩], [.couplant, .block, .block, .block], ['L', 'L', 'L', 'T']⟩, ['L', 'T']⟩,
  ⟨.immersion, ['T', 'T', 'L'], ['T', 'L', 'T'], ⟨['T', 'T', 'L'], [⟨.probe, none, none, none, none, some true⟩, ⟨.frontwall, some .fluidSolid, some .transmission, none, some false, some true⟩, ⟨.backwall, some .solidFluid, some .reflection, some .couplant, some false, some false⟩, ⟨.frontwall, some .solidFluid, some .reflection, some .couplant, some true, some true⟩, ⟨.grid, none, none, none, some true, none⟩], [.couplant, .block, .block, .block], ['L', 'T', 'T', 'L']⟩, ⟨['T', 'L', 'T'], [⟨.probe, none, none, none, none, some true⟩, ⟨.frontwall, some .fluidSolid, some .transmission, none, some false, some true⟩, ⟨.backwall, some .solidFluid, some .reflection, some .couplant, some false, some false⟩, ⟨.frontwall, some .solidFluid, some .reflection, some .couplant, some true, some true⟩, ⟨.grid, none, none, none, some true, none⟩], [.couplant, .block, .block, .block], ['L', 'T', 'L', 'T']⟩, ['L', 'T']⟩,
  ⟨.immersion, ['T', 'T', 'L'], ['T', 'T', 'L'], ⟨['T', 'T', 'L'], [⟨.probe, none, none, none, none, some true⟩, ⟨.frontwall, some .fluidSolid, some .transmission, none, some false, some true⟩, ⟨.backwall, some .solidFluid, some .reflection, some .couplant, some false, some false⟩, ⟨.frontwall, some .solidFluid, some .reflection, some .couplant, some true, some true⟩, ⟨.grid, none, none, none, some true, none⟩], [.couplant, .block, .block, .block], ['L', 'T', 'T', 'L']⟩, ⟨['L', 'T', 'T'], [⟨.probe, none, none, none, none, some true⟩, ⟨.frontwall, some .fluidSolid, some .transmission, none, some false, some true⟩, ⟨.backwall, some .solidFluid, some .reflection, some .couplant, some false, some false⟩, ⟨.frontwall, some .solidFluid, some .reflection, some .couplant, some true, some true⟩, ⟨.grid, none, none, none, some true, none⟩], [.couplant, .block, .block, .block], ['L', 'L', 'T', 'T']⟩, ['L', 'T']⟩,
  ⟨.immersion, ['T', 'T', 'L'], ['T', 'T', 'T'], ⟨['T', 'T', 'L'], [⟨.probe, none, none, none, none, some true⟩, ⟨.frontwall, some .fluidSolid, some .transmission, none, some false, some true⟩, ⟨.backwall, some .solidFluid, some .reflection, some .couplant, some false, some false⟩, ⟨.frontwall, some .solidFluid, some .reflection, some .couplant, some true, some true⟩, ⟨.grid, none, none, none, some true, none⟩], [.couplant, .block, .block, .block], ['L', 'T', 'T', 'L']⟩, ⟨['T', 'T', 'T'], [⟨.probe, none, none, none, none, some true⟩, ⟨.frontwall, some .fluidSolid, some .transmission, none, some false, some true⟩, ⟨.backwall, some .solidFluid, some .reflection, some .couplant, some false, some false⟩, ⟨.frontwall, some .solidFluid, some .reflection, some .couplant, some true, some true⟩, ⟨.grid, none, none, none, some true, none⟩], [.couplant, .block, .block, .block], ['L', 'T', 'T', 'T']⟩, ['L', 'T']⟩,
  ⟨.immersion, ['T', 'T', 'T'], ['L', 'L', 'L'], ⟨['T', 'T', 'T'], [⟨.probe, none, none, none, none, some true⟩, ⟨.frontwall, some .fluidSolid, some .transmission, none, some false, some true⟩, ⟨.backwall, some .solidFluid, some .reflection, some .couplant, some false, some false⟩, ⟨.frontwall, some .solidFluid, some .reflection, some .couplant, some true, some true⟩, ⟨.grid, none, none, none, some true, none⟩], [.couplant, .block, .block, .block], ['L', 'T', 'T', 'T']⟩, ⟨['L', 'L', 'L'], [⟨.probe, none, none, none, none, some true⟩, ⟨.frontwall, some .fluidSolid, some .transmission, none, some false, some true⟩, ⟨.backwall, some .solidFluid, some .reflection, some .couplant, some false, some false⟩, ⟨.frontwall, some .solidFluid, some .reflection, some .couplant, some true, some true⟩, ⟨.grid, none, none, none, some true, none⟩], [.couplant, .block, .block, .block], ['L', 'L', 'L', 'L']⟩, ['T', 'L']⟩,
  ⟨.immersion, ['T', 'T', 'T'], ['L', 'L', 'T'], ⟨['T', 'T', 'T'], [⟨.probe, none, none, none, none, some true⟩, ⟨.frontwall, some .fluidSolid, some .transmission, none, some false, some true⟩, ⟨.backwall, some .solidFluid, some .reflection, some .couplant, some false, some false⟩, ⟨.frontwall, some .solidFluid, some .reflection, some .couplant, some true, some true⟩, ⟨.grid, none, none, none, some true, none⟩], [.couplant, .block, .block, .block], ['L', 'T', 'T', 'T']⟩, ⟨['T', 'L', 'L'], [⟨.probe, none, none, none, none, some true⟩, ⟨.frontwall, some .fluidSolid, some .transmission, none, some false, some true⟩, ⟨.backwall, some .solidFluid, some .reflection, some .couplant, some false, some false⟩, ⟨.frontwall, some .solidFluid, some .reflection, some .couplant, some true, some true⟩, ⟨.grid, none, none, none, some true, none⟩], [.couplant, .block, .block, .block], ['L', 'T', 'L', 'L']⟩, ['T', 'L']⟩,
  ⟨.immersion, ['T', 'T', 'T'], ['L', 'T', 'L'], ⟨['T', 'T', 'T'], [⟨.probe, none, none, none, none, some true⟩, ⟨.frontwall, some .fluidSolid, some .transmission, none, some false, some true⟩, ⟨.backwall, some .solidFluid, some .reflection, some .couplant, some false, some false⟩, ⟨.frontwall, some .solidFluid, some .reflection, some .couplant, some true, some true⟩, ⟨.grid, none, none, none, some true, none⟩], [.couplant, .block, .block, .block], ['L', 'T', 'T', 'T']⟩, ⟨['L', 'T', 'L'], [⟨.probe, none, none, none, none, some true⟩, ⟨.frontwall, some .fluidSolid, some .transmission, none, some false, some true⟩, ⟨.backwall, some .solidFluid, some .reflection, some .couplant, some false, some false⟩, ⟨.frontwall, some .solidFluid, some .reflection, some .couplant, some true, some true⟩, ⟨.grid, none, none, none, some true, none⟩], [.couplant, .block, .block, .block], ['L', 'L', 'T', 'L']⟩, ['T', 'L']⟩,
  ⟨.immersion, ['T', 'T', 'T'], ['L', 'T', 'T'], ⟨['T', 'T', 'T'], [⟨.probe, none, none, none, none, some true⟩, ⟨.frontwall, some .fluidSolid, some .transmission, none, some false, some true⟩, ⟨.backwall, some .solidFluid, some .reflection, some .couplant, some false, some false⟩, ⟨.frontwall, some .solidFluid, some .reflection, some .couplant, some true, some true⟩, ⟨.grid, none, none, none, some true, none⟩], [.couplant, .block, .block, .block], ['L', 'T', 'T', 'T']⟩, ⟨['T', 'T', 'L'], [⟨.probe, none, none, none, none, some true⟩, ⟨.frontwall, some .fluidSolid, some .transmission, none, some false, some true⟩, ⟨.backwall, some .solidFluid, some .reflection, some .couplant, some false, some false⟩, ⟨.frontwall, some .solidFluid, some .reflection, some .couplant, some true, some true⟩, ⟨.grid, none, none, none, some true, none⟩], [.couplant, .block, .block, .block], ['L', 'T', 'T', 'L']⟩, ['T', 'L']⟩,
  ⟨.immersion, ['T', 'T', 'T'], ['T', 'L', 'L'], ⟨['T', 'T', 'T'], [⟨.probe, none, none, none, none, some true⟩, ⟨.frontwall, some .fluidSolid, some .transmission, none, some false, some true⟩, ⟨.backwall, some .solidFluid, some .reflection, some .couplant, some false, some false⟩, ⟨.frontwall, some .solidFluid, some .reflection, some .couplant, some true, some true⟩, ⟨.grid, none, none, none, some true, none⟩], [.couplant, .block, .block, .block], ['L', 'T', 'T', 'T']⟩, ⟨['L', 'L', 'T'], [⟨.probe, none, none, none, none, some true⟩, ⟨.frontwall, some .fluidSolid, some .transmission, none, some false, some true⟩, ⟨.backwall, some .solidFluid, some .reflection, some .couplant, some false, some false⟩, ⟨.frontwall, some .solidFluid, some .reflection, some .couplant, some true, some true⟩, ⟨.grid, none, none, none, some true, none⟩], [.couplant, .block, .block, .block], ['L', 'L', 'L', 'T']⟩, ['T', 'T']⟩,
  ⟨.immersion, ['T', 'T', 'T'], ['T', 'L', 'T'], ⟨['T', 'T', 'T'], [⟨.probe, none, none, none, none, some true⟩, ⟨.frontwall, some .fluidSolid, some .transmission, none, some false, some true⟩, ⟨.backwall, some .solidFluid, some .reflection, some .couplant, some false, some false⟩, ⟨.frontwall, some .solidFluid, some .reflection, some .couplant, some true, some true⟩, ⟨.grid, none, none, none, some true, none⟩], [.couplant, .block, .block, .block], ['L', 'T', 'T', 'T']⟩, ⟨['T', 'L', 'T'], [⟨.probe, none, none, none, none, some true⟩, ⟨.frontwall, some .fluidSolid, some .transmission, none, some false, some true⟩, ⟨.backwall, some .solidFluid, some .reflection, some .couplant, some false, some false⟩, ⟨.frontwall, some .solidFluid, some .reflection, some .couplant, some true, some true⟩, ⟨.grid, none, none, none, some true, none⟩], [.couplant, .block, .block, .block], ['L', 'T', 'L', 'T']⟩, ['T', 'T']⟩,
  ⟨.immersion, ['T', 'T', 'T'], ['T', 'T', 'L'], ⟨['T', 'T', 'T'], [⟨.probe, none, none, none, none, some true⟩, ⟨.frontwall, some .fluidSolid, some .transmission, none, some false, some true⟩, ⟨.backwall, some .solidFluid, some .reflection, some .couplant, some false, some false⟩, ⟨.frontwall, some .solidFluid, some .reflection, some .couplant, some true, some true⟩, ⟨.grid, none, none, none, some true, none⟩], [.couplant, .block, .block, .block], ['L', 'T', 'T', 'T']⟩, ⟨['L', 'T', 'T'], [⟨.probe, none, none, none, none, some true⟩, ⟨.frontwall, some .fluidSolid, some .transmission, none, some false, some true⟩, ⟨.backwall, some .solidFluid, some .reflection, some .couplant, some false, some false⟩, ⟨.frontwall, some .solidFluid, some .reflection, some .couplant, some true, some true⟩, ⟨.grid, none, none, none, some true, none⟩], [.couplant, .block, .block, .block], ['L', 'L', 'T', 'T']⟩, ['T', 'T']⟩,
  ⟨.immersion, ['T', 'T', 'T'], ['T', 'T', 'T'], ⟨['T', 'T', 'T'], [⟨.probe, none, none, none, none, some true⟩, ⟨.frontwall, some .fluidSolid, some .transmission, none, some false, some true⟩, ⟨.backwall, some .solidFluid, some .reflection, some .couplant, some false, some false⟩, ⟨.frontwall, some .solidFluid, some .reflection, some .couplant, some true, some true⟩, ⟨.grid, none, none, none, some true, none⟩], [.couplant, .block, .block, .block], ['L', 'T', 'T', 'T']⟩, ⟨['T', 'T', 'T'], [⟨.probe, none, none, none, none, some true⟩, ⟨.frontwall, some .fluidSolid, some .transmission, none, some false, some true⟩, ⟨.backwall, some .solidFluid, some .reflection, some .couplant, some false, some false⟩, ⟨.frontwall, some .solidFluid, some .reflection, some .couplant, some true, some true⟩, ⟨.grid, none, none, none, some true, none⟩], [.couplant, .block, .block, .block], ['L', 'T', 'T', 'T']⟩, ['T', 'T']⟩,
  ⟨.contact true true true, ['L'], ['L'], ⟨['L'], [⟨.probe, none, none, none, none, some true⟩, ⟨.grid, none, none, none, some true, none⟩], [.block], ['L']⟩, ⟨['L'], [⟨.probe, none, none, none, none, some true⟩, ⟨.grid, none, none, none, some true, none⟩], [.block], ['L']⟩, ['L', 'L']⟩,
  ⟨.contact true true true, ['L'], ['T'], ⟨['L'], [⟨.probe, none, none, none, none, some true⟩, ⟨.grid, none, none, none, some true, none⟩], [.block], ['L']⟩, ⟨['T'], [⟨.probe, none, none, none, none, some true⟩, ⟨.grid, none, none, none, some true, none⟩], [.block], ['T']⟩, ['L', 'T']⟩,
  ⟨.contact true true true, ['T'], ['L'], ⟨['T'], [⟨.probe, none, none, none, none, some true⟩, ⟨.grid, none, none, none, some true, none⟩], [.block], ['T']⟩, ⟨['L'], [⟨.probe, none, none, none, none, some true⟩, ⟨.grid, none, none, none, some true, none⟩], [.block], ['L']⟩, ['T', 'L']⟩,
  ⟨.contact true true true, ['T'], ['T'], ⟨['T'], [⟨.probe, none, none, none, none, some true⟩, ⟨.grid, none, none, none, some true, none⟩], [.block], ['T']⟩, ⟨['T'], [⟨.probe, none, none, none, none, some true⟩, ⟨.grid, none, none, none, some true, none⟩], [.block], ['T']⟩, ['T', 'T']⟩
]

def table5 : List ViewEntry := [
  ⟨.contact true true true, ['L', 'L'], ['L'], ⟨['L', 'L'], [⟨.probe, none, none, none, none, some true⟩, ⟨.backwall, some .solidFluid, some .reflection, some .under, some false, some false⟩, ⟨.grid, none, none, none, some true, none⟩], [.block, .block], ['L', 'L']⟩, ⟨['L'], [⟨.probe, none, none, none, none, some true⟩, ⟨.grid, none, none, none, some true, none⟩], [.block], ['L']⟩, ['L', 'L']⟩,
  ⟨.contact true true true, ['L', 'L'], ['T'], ⟨['L', 'L'], [⟨.probe, none, none, none, none, some true⟩, ⟨.backwall, some .solidFluid, some .reflection, some .under, some false, some false⟩, ⟨.grid, none, none, none, some true, none⟩], [.block, .block], ['L', 'L']⟩, ⟨['T'], [⟨.probe, none, none, none, none, some true⟩, ⟨.grid, none, none, none, some true, none⟩], [.block], ['T']⟩, ['L', 'T']⟩,
  ⟨.contact true true true, ['L', 'T'], ['L'], ⟨['L', 'T'], [⟨.probe, none, none, none, none, some true⟩, ⟨.backwall, some .solidFluid, some .reflection, some .under, some false, some false⟩, ⟨.grid, none, none, none, some true, none⟩], [.block, .block], ['L', 'T']⟩, ⟨['L'], [⟨.probe, none, none, none, none, some true⟩, ⟨.grid, none, none, none, some true, none⟩], [.block], ['L']⟩, ['T', 'L']⟩,
  ⟨.contact true true true, ['L', 'T'], ['T'], ⟨['L', 'T'], [⟨.probe, none, none, none, none, some true⟩, ⟨.backwall, some .solidFluid, some .reflection, some .under, some false, some false⟩, ⟨.grid, none, none, none, some true, none⟩], [.block, .block], ['L', 'T']⟩, ⟨['T'], [⟨.probe, none, none, none, none, some true⟩, ⟨.grid, none, none, none, some true, none⟩], [.block], ['T']⟩, ['T', 'T']⟩,
  ⟨.contact true true true, ['T', 'L'], ['L'], ⟨['T', 'L'], [⟨.probe, none, none, none, none, some true⟩, ⟨.backwall, some .solidFluid, some .reflection, some .under, some false, some false⟩, ⟨.grid, none, none, none, some true, none⟩], [.block, .block], ['T', 'L']⟩, ⟨['L'], [⟨.probe, none, none, none, none, some true⟩, ⟨.grid, none, none, none, some true, none⟩], [.block], ['L']⟩, ['L', 'L']⟩,
  ⟨.contact true true true, ['T', 'L'], ['T'], ⟨['T', 'L'], [⟨.probe, none, none, none, none, some true⟩, ⟨.backwall, some .solidFluid, some .reflection, some .under, some false, some false⟩, ⟨.grid, none, none, none, some true, none⟩], [.block, .block], ['T', 'L']⟩, ⟨['T'], [⟨.probe, none, none, none, none, some true⟩, ⟨.grid, none, none, none, some true, none⟩], [.block], ['T']⟩, ['L', 'T']⟩,
  ⟨.contact true true true, ['T', 'T'], ['L'], ⟨['T', 'T'], [⟨.probe, none, none, none, none, some true⟩, ⟨.backwall, some .solidFluid, some .reflection, some .under, some false, some false⟩, ⟨.grid, none, none, none, some true, none⟩], [.block, .block], ['T', 'T']⟩, ⟨['L'], [⟨.probe, none, none, none, none, some true⟩, ⟨.grid, none, none, none, some true, none⟩], [.block], ['L']⟩, ['T', 'L']⟩,
  ⟨.contact true true true, ['T', 'T'], ['T'], ⟨['T', 'T'], [⟨.probe, none, none, none, none, some true⟩, ⟨.backwall, some .solidFluid, some .reflection, some .under, some false, some false⟩, ⟨.grid, none, none, none, some true, none⟩], [.block, .block], ['T', 'T']⟩, ⟨['T'], [⟨.probe, none, none, none, none, some true⟩, ⟨.grid, none, none, none, some true, none⟩], [.block], ['T']⟩, ['T', 'T']⟩,
  ⟨.contact true true true, ['L'], ['L', 'L'], ⟨['L'], [⟨.probe, none, none, none, none, some true⟩, ⟨.grid, none, none, none, some true, none⟩], [.block], ['L']⟩, ⟨['L', 'L'], [⟨.probe, none, none, none, none, some true⟩, ⟨.backwall, some .solidFluid, some .reflection, some .under, some false, some false⟩, ⟨.grid, none, none, none, some true, none⟩], [.block, .block], ['L', 'L']⟩, ['L', 'L']⟩,
  ⟨.contact true true true, ['L'], ['L', 'T'], ⟨['L'], [⟨.probe, none, none, none, none, some true⟩, ⟨.grid, none, none, none, some true, none⟩], [.block], ['L']⟩, ⟨['T', 'L'], [⟨.probe, none, none, none, none, some true⟩, ⟨.backwall, some .solidFluid, some .reflection, some .under, some false, some false⟩, ⟨.grid, none, none, none, some true, none⟩], [.block, .block], ['T', 'L']⟩, ['L', 'L']⟩,
  ⟨.contact true true true, ['L'], ['T', 'L'], ⟨['L'], [⟨.probe, none, none, none, none, some true⟩, ⟨.grid, none, none, none, some true, none⟩], [.block], ['L']⟩, ⟨['L', 'T'], [⟨.probe, none, none, none, none, some true⟩, ⟨.backwall, some .solidFluid, some .reflection, some .under, some false, some false⟩, ⟨.grid, none, none, none, some true, none⟩], [.block, .block], ['L', 'T']⟩, ['L', 'T']⟩,
  ⟨.contact true true true, ['L'], ['T', 'T'], ⟨['L'], [⟨.probe, none, none, none, none, some true⟩, ⟨.grid, none, none, none, some true, none⟩], [.block], ['L']⟩, ⟨['T', 'T'], [⟨.probe, none, none, none, none, some true⟩, ⟨.backwall, some .solidFluid, some .reflection, some .under, some false, some false⟩, ⟨.grid, none, none, none, some true, none⟩], [.block, .block], ['T', 'T']⟩, ['L', 'T']⟩,
  ⟨.contact true true true, ['T'], ['L', 'L'], ⟨['T'], [⟨.probe, none, none, none, none, some true⟩, ⟨.grid, none, none, none, some true, none⟩], [.block], ['T']⟩, ⟨['L', 'L'], [⟨.probe, none, none, none, none, some true⟩, ⟨.backwall, some .solidFluid, some .reflection, some .under, some false, some false⟩, ⟨.grid, none, none, none, some true, none⟩], [.block, .block], ['L', 'L']⟩, ['T', 'L']⟩,
  ⟨.contact true true true, ['T'], ['L', 'T'], ⟨['T'], [⟨.probe, none, none, none, none, some true⟩, ⟨.grid, none, none, none, some true, none⟩], [.block], ['T']⟩, ⟨['T', 'L'], [⟨.probe, none, none, none, none, some true⟩, ⟨.backwall, some .solidFluid, some .reflection, some .under, some false, some false⟩, ⟨.grid, none, none, none, some true, none⟩], [.block, .block], ['T', 'L']⟩, ['T', 'L']⟩,
  ⟨.contact true true true, ['T'], ['T', 'L'], ⟨['T'], [⟨.probe, none, none, none, none, some true⟩, ⟨.grid, none, none, none, some true, none⟩], [.block], ['T']⟩, ⟨['L', 'T'], [⟨.probe, none, none, none, none, some true⟩, ⟨.backwall, some .solidFluid, some .reflection, some .under, some false, some false⟩, ⟨.grid, none, none, none, some true, none⟩], [.block, .block], ['L', 'T']⟩, ['T', 'T']⟩,
  ⟨.contact true true true, ['T'], ['T', 'T'], ⟨['T'], [⟨.probe, none, none, none, none, some true⟩, ⟨.grid, none, none, none, some true, none⟩], [.block], ['T']⟩, ⟨['T', 'T'], [⟨.probe, none, none, none, none, some true⟩, ⟨.backwall, some .solidFluid, some .reflection, some .under, some false, some false⟩, ⟨.grid, none, none, none, some true, none⟩], [.block, .block], ['T', 'T']⟩, ['T', 'T']⟩,
  ⟨.contact true true true, ['L', 'L'], ['L', 'L'], ⟨['L', 'L'], [⟨.probe, none, none, none, none, some true⟩, ⟨.backwall, some .solidFluid, some .reflection, some .under, some false, some false⟩, ⟨.grid, none, none, none, some true, none⟩], [.block, .block], ['L', 'L']⟩, ⟨['L', 'L'], [⟨.probe, none, none, none, none, some true⟩, ⟨.backwall, some .solidFluid, some .reflection, some .under, some false, some false⟩, ⟨.grid, none, none, none, some true, none⟩], [.block, .block], ['L', 'L']⟩, ['L', 'L']⟩,
  ⟨.contact true true true, ['L', 'L'], ['L', 'T'], ⟨['L', 'L'], [⟨.probe, none, none, none, none, some true⟩, ⟨.backwall, some .solidFluid, some .reflection, some .under, some false, some false⟩, ⟨.grid, none, none, none, some true, none⟩], [.block, .block], ['L', 'L']⟩, ⟨['T', 'L'], [⟨.probe, none, none, none, none, some true⟩, ⟨.backwall, some .solidFluid, some .reflection, some .under, some false, some false⟩, ⟨.grid, none, none, none, some true, none⟩], [.block, .block], ['T', 'L']⟩, ['L', 'L']⟩,
  ⟨.contact true true true, ['L', 'L'], ['T', 'L'], ⟨['L', 'L'], [⟨.probe, none, none, none, none, some true⟩, ⟨.backwall, some .solidFluid, some .reflection, some .under, some false, some false⟩, ⟨.grid, none, none, none, some true, none⟩], [.block, .block], ['L', 'L']⟩, ⟨['L', 'T'], [⟨.probe, none, none, none, none, some true⟩, ⟨.backwall, some .solidFluid, some .reflection, some .under, some false, some false⟩, ⟨.grid, none, none, none, some true, none⟩], [.block, .block], ['L', 'T']⟩, ['L', 'T']⟩,
  ⟨.contact true true true, ['L', 'L'], ['T', 'T'], ⟨['L', 'L'], [⟨.probe, none, none, none, none, some true⟩, ⟨.backwall, some .solidFluid, some .reflection, some .under, some false, some false⟩, ⟨.grid, none, none, none, some true, none⟩], [.block, .block], ['L', 'L']⟩, ⟨['T', 'T'], [⟨.probe, none, none, none, none, some true⟩, ⟨.backwall, some .solidFluid, some .reflection, some .under, some false, some false⟩, ⟨.grid, none, none, none, some true, none⟩], [.block, .block], ['T', 'T']⟩, ['L', 'T']⟩,
  ⟨.contact true true true, ['L', 'T'], ['L', 'L'], ⟨['L', 'T'], [⟨.probe, none, none, none, none, some true⟩, ⟨.backwall, some .solidFluid, some .reflection, some .under, some false, some false⟩, ⟨.grid, none, none, none, some true, none⟩], [.block, .block], ['L', 'T']⟩, ⟨['L', 'L'], [⟨.probe, none, none, none, none, some true⟩, ⟨.backwall, some .solidFluid, some .reflection, some .under, some false, some false⟩, ⟨.grid, none, none, none, some true, none⟩], [.block, .block], ['L', 'L']⟩, ['T', 'L']⟩,
  ⟨.contact true true true, ['L', 'T'], ['L', 'T'], ⟨['L', 'T'], [⟨.probe, none, none, none, none, some true⟩, ⟨.backwall, some .solidFluid, some .reflection, some .under, some false, some false⟩, ⟨.grid, none, none, none, some true, none⟩], [.block, .block], ['L', 'T']⟩, ⟨['T', 'L'], [⟨.probe, none, none, none, none, some true⟩, ⟨.backwall, some .solidFluid, some .reflection, some .under, some false, some false⟩, ⟨.grid, none, none, none, some true, none⟩], [.block, .block], ['T', 'L']⟩, ['T', 'L']⟩,
  ⟨.contact true true true, ['L', 'T'], ['T', 'L'], ⟨['L', 'T'], [⟨.probe, none, none, none, none, some true⟩, ⟨.backwall, some .solidFluid, some .reflection, some .under, some false, some false⟩, ⟨.grid, none, none, none, some true, none⟩], [.block, .block], ['L', 'T']⟩, ⟨['L', 'T'], [⟨.probe, none, none, none, none, some true⟩, ⟨.backwall, some .solidFluid, some .reflection, some .under, some false, some false⟩, ⟨.grid, none, none, none, some true, none⟩], [.block, .block], ['L', 'T']⟩, ['T', 'T']⟩,
  ⟨.contact true true true, ['L', 'T'], ['T', 'T'], ⟨['L', 'T'], [⟨.probe, none, none, none, none, some true⟩, ⟨.backwall, some .solidFluid, some .reflection, some .under, some false, some false⟩, ⟨.grid, none, none, none, some true, none⟩], [.block, .block], ['L', 'T']⟩, ⟨['T', 'T'], [⟨.probe, none, none, none, none, some true⟩, ⟨.backwall, some .solidFluid, some .reflection, some .under, some false, some false⟩, ⟨.grid, none, none, none, some true, none⟩], [.block, .block], ['T', 'T']⟩, ['T', 'T']⟩,
  ⟨.contact true true true, ['T', 'L'], ['L', 'L'], ⟨['T', 'L'], [⟨.probe, none, none, none, none, some true⟩, ⟨.backwall, some .solidFluid, some .reflection, some .under, some false, some false⟩, ⟨.grid, none, none, none, some true, none⟩], [.block, .block], ['T', 'L']⟩, ⟨['L', 'L'], [⟨.probe, none, none, none, none, some true⟩, ⟨.backwall, some .solidFluid, some .reflection, some .under, some false, some false⟩, ⟨.grid, none, none, none, some true, none⟩], [.block, .block], ['L', 'L']⟩, ['L', 'L']⟩,
  ⟨.contact true true true, ['T', 'L'], ['L', 'T'], ⟨['T', 'L'], [⟨.probe, none, none, none, none, some true⟩, ⟨.backwall, some .solidFluid, some .reflection, some .under, some false, some false⟩, ⟨.grid, none, none, none, some true, none⟩], [.block, .block], ['T', 'L']⟩, ⟨['T', 'L'], [⟨.probe, none, none, none, none, some true⟩, ⟨.backwall, some .solidFluid, some .reflection, some .under, some false, some false⟩, ⟨.grid, none, none, none, some true, none⟩], [.block, .block], ['T', 'L']⟩, ['L', 'L']⟩,
  ⟨.contact true true true, ['T', 'L'], ['T', 'L'], ⟨['T', 'L'], [⟨.probe, none, none, none, none, some true⟩, ⟨.backwall, some .solidFluid, some .reflection, some .under, some false, some false⟩, ⟨.grid, none, none, none, some true, none⟩], [.block, .block], ['T', 'L']⟩, ⟨['L', 'T'], [⟨.probe, none, none, none, none, some true⟩, ⟨.backwall, some .solidFluid, some .reflection, some .under, some false, some false⟩, ⟨.grid, none, none, none, some true, none⟩], [.block, .block], ['L', 'T']⟩, ['L', 'T']⟩,
  ⟨.contact true true true, ['T', 'L'], ['T', 'T'], ⟨['T', 'L'], [⟨.probe, none, none, none, none, some true⟩, ⟨.backwall, some .solidFluid, some .reflection, some .under, some false, some false⟩, ⟨.grid, none, none, none, some true, none⟩], [.block, .block], ['T', 'L']⟩, ⟨['T', 'T'], [⟨.probe, none, none, none, none, some true⟩, ⟨.backwall, some .solidFluid, some .reflection, some .under, some false, some false⟩, ⟨.grid, none, none, none, some true, none⟩], [.block, .block], ['T', 'T']⟩, ['L', 'T']⟩,
  ⟨.contact true true true, ['T', 'T'], ['L', 'L'], ⟨['T', 'T'], [⟨.probe, none, none, none, none, some true⟩, ⟨.backwall, some .solidFluid, some .reflection, some .under, some false, some false⟩, ⟨.grid, none, none, none, some true, none⟩], [.block, .block], ['T', 'T']⟩, ⟨['L', 'L'], [⟨.probe, none, none, none, none, some true⟩, ⟨.backwall, some .solidFluid, some .reflection, some .under, some false, some false⟩, ⟨.grid, none, none, none, some true, none⟩], [.block, .block], ['L', 'L']⟩, ['T', 'L']⟩,
  ⟨.contact true true true, ['T', 'T'], ['L', 'T'], ⟨['T', 'T'], [⟨.probe, none, none, none, none, some true⟩, ⟨.backwall, some .solidFluid, some .reflection, some .under, some false, some false⟩, ⟨.grid, none, none, none, some true, none⟩], [.block, .block], ['T', 'T']⟩, ⟨['T', 'L'], [⟨.probe, none, none, none, none, some true⟩, ⟨.backwall, some .solidFluid, some .reflection, some .under, some false, some false⟩, ⟨.grid, none, none, none, some true, none⟩], [.block, .block], ['T', 'L']⟩, ['T', 'L']⟩,
  ⟨.contact true true true, ['T', 'T'], ['T', 'L'], ⟨['T', 'T'], [⟨.probe, none, none, none, none, some true⟩, ⟨.backwall, some .solidFluid, some .reflection, some .under, some false, some false⟩, ⟨.grid, none, none, none, some true, none⟩], [.block, .block], ['T', 'T']⟩, ⟨['L', 'T'], [⟨.probe, none, none, none, none, some true⟩, ⟨.backwall, some .solidFluid, some .reflection, some .under, some false, some false⟩, ⟨.grid, none, none, none, some true, none⟩], [.block, .block], ['L', 'T']⟩, ['T', 'T']⟩,
  ⟨.contact true true true, ['T', 'T'], ['T', 'T'], ⟨['T', 'T'], [⟨.probe, none, none, none, none, some true⟩, ⟨.backwall, some .solidFluid, some .reflection, some .under, some false, some false⟩, ⟨.grid, none, none, none, some true, none⟩], [.block, .block], ['T', 'T']⟩, ⟨['T', 'T'], [⟨.probe, none, none, none, none, some true⟩, ⟨.backwall, some .solidFluid, some .reflection, some .under, some false, some false⟩, ⟨.grid, none, none, none, some true, none⟩], [.block, .block], ['T', 'T']⟩, ['T', 'T']⟩,
  ⟨.contact true true true, ['L', 'L', 'L'], ['L'], ⟨['L', 'L', 'L'], [⟨.probe, none, none, none, none, some true⟩, ⟨.backwall, some .solidFluid, some .reflection, some .under, some false, some false⟩, ⟨.frontwall, none, none, none, some true, some true⟩, ⟨.grid, none, none, none, some true, none⟩], [.block, .block, .block], ['L', 'L', 'L']⟩, ⟨['L'], [⟨.probe, none, none, none, none, some true⟩, ⟨.grid, none, none, none, some true, none⟩], [.block], ['L']⟩, ['L', 'L']⟩,
  ⟨.contact true true true, ['L', 'L', 'L'], ['T'], ⟨['L', 'L', 'L'], [⟨.probe, none, none, none, none, some true⟩, ⟨.backwall, some .solidFluid, some .reflection, some .under, some false, some false⟩, ⟨.frontwall, none, none, none, some true, some true⟩, ⟨.grid, none, none, none, some true, none⟩], [.block, .block, .block], ['L', 'L', 'L']⟩, ⟨['T'], [⟨.probe, none, none, none, none, some true⟩, ⟨.grid, none, none, none, some true, none⟩], [.block], ['T']⟩, ['L', 'T']⟩,
  ⟨.contact true true true, ['L', 'L', 'T'], ['L'], ⟨['L', 'L', 'T'], [⟨.probe, none, none, none, none, some true⟩, ⟨.backwall, some .solidFluid, some .reflection, some .under, some false, some false⟩, ⟨.frontwall, none, none, none, some true, some true⟩, ⟨.grid, none, none, none, some true, none⟩], [.block, .block, .block], ['L', 'L', 'T']⟩, ⟨['L'], [⟨.probe, none, none, none, none, some true⟩, ⟨.grid, none, none, none, some true, none⟩], [.block], ['L']⟩, ['T', 'L']⟩,
  ⟨.contact true true true, ['L', 'L', 'T'], ['T'], ⟨['L', 'L', 'T'], [⟨.probe, none, none, none, none, some true⟩, ⟨.backwall, some .solidFluid, some .reflection, some .under, some false, some false⟩, ⟨.frontwall, none, none, none, some true, some true⟩, ⟨.grid, none, none, none, some true, none⟩], [.block, .block, .block], ['L', 'L', 'T']⟩, ⟨['T'], [⟨.probe, none, none, none, none, some true⟩, ⟨.grid, none, none, none, some true, none⟩], [.block], ['T']⟩, ['T', 'T']⟩,
  ⟨.contact true true true, ['L', 'T', 'L'], ['L'], ⟨['L', 'T', 'L'], [⟨.probe, none, none, none, none, some true⟩, ⟨.backwall, some .solidFluid, some .reflection, some .under, some false, some false⟩, ⟨.frontwall, none, none, none, some true, some true⟩, ⟨.grid, none, none, none, some true, none⟩], [.block, .block, .block], ['L', 'T', 'L']⟩, ⟨['L'], [⟨.probe, none, none, none, none, some true⟩, ⟨.grid, none, none, none, some true, none⟩], [.block], ['L']⟩, ['L', 'L']⟩,
  ⟨.contact true true true, ['L', 'T', 'L'], ['T'], ⟨['L', 'T', 'L'], [⟨.probe, none, none, none, none, some true⟩, ⟨.backwall, some .solidFluid, some .reflection, some .under, some false, some false⟩, ⟨.frontwall, none, none, none, some true, some true⟩, ⟨.grid, none, none, none, some true, none⟩], [.block, .block, .block], ['L', 'T', 'L']⟩, ⟨['T'], [⟨.probe, none, none, none, none, some true⟩, ⟨.grid, none, none, none, some true, none⟩], [.block], ['T']⟩, ['L', 'T']⟩,
  ⟨.contact true true true, ['L', 'T', 'T'], ['L'], ⟨['L', 'T', 'T'], [⟨.probe, none, none, none, none, some true⟩, ⟨.backwall, some .solidFluid, some .reflection, some .under, some false, some false⟩, ⟨.frontwall, none, none, none, some true, some true⟩, ⟨.grid, none, none, none, some true, none⟩], [.block, .block, .block], ['L', 'T', 'T']⟩, ⟨['L'], [⟨.probe, none, none, none, none, some true⟩, ⟨.grid, none, none, none, some true, none⟩], [.block], ['L']⟩, ['T', 'L']⟩,
  ⟨.contact true true true, ['L', 'T', 'T'], ['T'], ⟨['L', 'T', 'T'], [⟨.probe, none, none, none, none, some true⟩, ⟨.backwall, some .solidFluid, some .reflection, some .under, some false, some false⟩, ⟨.frontwall, none, none, none, some true, some true⟩, ⟨.grid, none, none, none, some true, none⟩], [.block, .block, .block], ['L', 'T', 'T']⟩, ⟨['T'], [⟨.probe, none, none, none, none, some true⟩, ⟨.grid, none, none, none, some true, none⟩], [.block], ['T']⟩, ['T', 'T']⟩
]

def table6 : List ViewEntry := [
  ⟨.contact true true true, ['T', 'L', 'L'], ['L'], ⟨['T', 'L', 'L'], [⟨.probe, none, none, none, none, some true⟩, ⟨.backwall, some .solidFluid, some .reflection, some .under, some false, some false⟩, ⟨.frontwall, none, none, none, some true, some true⟩, ⟨.grid, none, none, none, some true, none⟩], [.block, .block, .block], ['T', 'L', 'L']⟩, ⟨['L'], [⟨.probe, none, none, none, none, some true⟩, ⟨.grid, none, none, none, some true, none⟩], [.block], ['L']⟩, ['L', 'L']⟩,
  ⟨.contact true true true, ['T', 'L', 'L'], ['T'], ⟨['T', 'L', 'L'], [⟨.probe, none, none, none, none, some true⟩, ⟨.backwall, some .solidFluid, some .reflection, some .under, some false, some false⟩, ⟨.frontwall, none, none, none, some true, some true⟩, ⟨.grid, none, none, none, some true, none⟩], [.block, .block, .block], ['T', 'L', 'L']⟩, ⟨['T'], [⟨.probe, none, none, none, none, some true⟩, ⟨.grid, none, none, none, some true, none⟩], [.block], ['T']⟩, ['L', 'T']⟩,
  ⟨.contact true true true, ['T', 'L', 'T'], ['L'], ⟨['T', 'L', 'T'], [⟨.probe, none, none, none, none, some true⟩, ⟨.backwall, some .solidFluid, some .reflection, some .under, some false, some false⟩, ⟨.frontwall, none, none, none, some true, some true⟩, ⟨.grid, none, none, none, some true, none⟩], [.block, .block, .block], ['T', 'L', 'T']⟩, ⟨['L'], [⟨.probe, none, none, none, none, some true⟩, ⟨.grid, none, none, none, some true, none⟩], [.block], ['L']⟩, ['T', 'L']⟩,
  ⟨.contact true true true, ['T', 'L', 'T'], ['T'], ⟨['T', 'L', 'T'], [⟨.probe, none, none, none, none, some true⟩, ⟨.backwall, some .solidFluid, some .reflection, some .under, some false, some false⟩, ⟨.frontwall, none, none, none, some true, some true⟩, ⟨.grid, none, none, none, some true, none⟩], [.block, .block, .block], ['T', 'L', 'T']⟩, ⟨['T'], [⟨.probe, none, none, none, none, some true⟩, ⟨.grid, none, none, none, some true, none⟩], [.block], ['T']⟩, ['T', 'T']⟩,
  ⟨.contact true true true, ['T', 'T', 'L'], ['L'], ⟨['T', 'T', 'L'], [⟨.probe, none, none, none, none, some true⟩, ⟨.backwall, some .solidFluid, some .reflection, some .under, some false, some false⟩, ⟨.frontwall, none, none, none, some true, some true⟩, ⟨.grid, none, none, none, some true, none⟩], [.block, .block, .block], ['T', 'T', 'L']⟩, ⟨['L'], [⟨.probe, none, none, none, none, some true⟩, ⟨.grid, none, none, none, some true, none⟩], [.block], ['L']⟩, ['L', 'L']⟩,
  ⟨.contact true true true, ['T', 'T', 'L'], ['T'], ⟨['T', 'T', 'L'], [⟨.probe, none, none, none, none, some true⟩, ⟨.backwall, some .solidFluid, some .reflection, some .under, some false, some false⟩, ⟨.frontwall, none, none, none, some true, some true⟩, ⟨.grid, none, none, none, some true, none⟩], [.block, .block, .block], ['T', 'T', 'L']⟩, ⟨['T'], [⟨.probe, none, none, none, none, some true⟩, ⟨.grid, none, none, none, some true, none⟩], [.block], ['T']⟩, ['L', 'T']⟩,
  ⟨.contact true true true, ['T', 'T', 'T'], ['L'], ⟨['T', 'T', 'T'], [⟨.probe, none, none, none, none, some true⟩, ⟨.backwall, some .solidFluid, some .reflection, some .under, some false, some false⟩, ⟨.frontwall, none, none, none, some true, some true⟩, ⟨.grid, none, none, none, some true, none⟩], [.block, .block, .block], ['T', 'T', 'T']⟩, ⟨['L'], [⟨.probe, none, none, none, none, some true⟩, ⟨.grid, none, none, none, some true, none⟩], [.block], ['L']⟩, ['T', 'L']⟩,
  ⟨.contact true true true, ['T', 'T', 'T'], ['T'], ⟨['T', 'T', 'T'], [⟨.probe, none, none, none, none, some true⟩, ⟨.backwall, some .solidFluid, some .reflection, some .under, some false, some false⟩, ⟨.frontwall, none, none, none, some true, some true⟩, ⟨.grid, none, none, none, some true, none⟩], [.block, .block, .block], ['T', 'T', 'T']⟩, ⟨['T'], [⟨.probe, none, none, none, none, some true⟩, ⟨.grid, none, none, none, some true, none⟩], [.block], ['T']⟩, ['T', 'T']⟩,
  ⟨.contact true true true, ['L'], ['L', 'L', 'L'], ⟨['L'], [⟨.probe, none, none, none, none, some true⟩, ⟨.grid, none, none, none, some true, none⟩], [.block], ['L']⟩, ⟨['L', 'L', 'L'], [⟨.probe, none, none, none, none, some true⟩, ⟨.backwall, some .solidFluid, some .reflection, some .under, some false, some false⟩, ⟨.frontwall, none, none, none, some true, some true⟩, ⟨.grid, none, none, none, some true, none⟩], [.block, .block, .block], ['L', 'L', 'L']⟩, ['L', 'L']⟩,
  ⟨.contact true true true, ['L'], ['L', 'L', 'T'], ⟨['L'], [⟨.probe, none, none, none, none, some true⟩, ⟨.grid, none, none, none, some true, none⟩], [.block], ['L']⟩, ⟨['T', 'L', 'L'], [⟨.probe, none, none, none, none, some true⟩, ⟨.backwall, some .solidFluid, some .reflection, some .under, some false, some false⟩, ⟨.frontwall, none, none, none, some true, some true⟩, ⟨.grid, none, none, none, some true, none⟩], [.block, .block, .block], ['T', 'L', 'L']⟩, ['L', 'L']⟩,
  ⟨.contact true true true, ['L'], ['L', 'T', 'L'], ⟨['L'], [⟨.probe, none, none, none, none, some true⟩, ⟨.grid, none, none, none, some true, none⟩], [.block], ['L']⟩, ⟨['L', 'T', 'L'], [⟨.probe, none, none, none, none, some true⟩, ⟨.backwall, some .solidFluid, some .reflection, some .under, some false, some false⟩, ⟨.frontwall, none, none, none, some true, some true⟩, ⟨.grid, none, none, none, some true, none⟩], [.block, .block, .block], ['L', 'T', 'L']⟩, ['L', 'L']⟩,
  ⟨.contact true true true, ['L'], ['L', 'T', 'T'], ⟨['L'], [⟨.probe, none, none, none, none, some true⟩, ⟨.grid, none, none, none, some true, none⟩], [.block], ['L']⟩, ⟨['T', 'T', 'L'], [⟨.probe, none, none, none, none, some true⟩, ⟨.backwall, some .solidFluid, some .reflection, some .under, some false, some false⟩, ⟨.frontwall, none, none, none, some true, some true⟩, ⟨.grid, none, none, none, some true, none⟩], [.block, .block, .block], ['T', 'T', 'L']⟩, ['L', 'L']⟩,
  ⟨.contact true true true, ['L'], ['T', 'L', 'L'], ⟨['L'], [⟨.probe, none, none, none, none, some true⟩, ⟨.grid, none, none, none, some true, none⟩], [.block], ['L']⟩, ⟨['L', 'L', 'T'], [⟨.probe, none, none, none, none, some true⟩, ⟨.backwall, some .solidFluid, some .reflection, some .under, some false, some false⟩, ⟨.frontwall, none, none, none, some true, some true⟩, ⟨.grid, none, none, none, some true, none⟩], [.block, .block, .block], ['L', 'L', 'T']⟩, ['L', 'T']⟩,
  ⟨.contact true true true, ['L'], ['T', 'L', 'T'], ⟨['L'], [⟨.probe, none, none, none, none, some true⟩, ⟨.grid, none, none, none, some true, none⟩], [.block], ['L']⟩, ⟨['T', 'L', 'T'], [⟨.probe, none, none, none, none, some true⟩, ⟨.backwall, some .solidFluid, some .reflection, some .under, some false, some false⟩, ⟨.frontwall, none, none, none, some true, some true⟩, ⟨.grid, none, none, none, some true, none⟩], [.block, .block, .block], ['T', 'L', 'T']⟩, ['L', 'T']⟩,
  ⟨.contact true true true, ['L'], ['T', 'T', 'L'], ⟨['L'], [⟨.probe, none, none, none, none, some true⟩, ⟨.grid, none, none, none, some true, none⟩], [.block], ['L']⟩, ⟨['L', 'T', 'T'], [⟨.probe, none, none, none, none, some true⟩, ⟨.backwall, some .solidFluid, some .reflection, some .under, some false, some false⟩, ⟨.frontwall, none, none, none, some true, some true⟩, ⟨.grid, none, none, none, some true, none⟩], [.block, .block, .block], ['L', 'T', 'T']⟩, ['L', 'T']⟩,
  ⟨.contact true true true, ['L'], ['T', 'T', 'T'], ⟨['L'], [⟨.probe, none, none, none, none, some true⟩, ⟨.grid, none, none, none, some true, none⟩], [.block], ['L']⟩, ⟨['T', 'T', 'T'], [⟨.probe, none, none, none, none, some true⟩, ⟨.backwall, some .solidFluid, some .reflection, some .under, some false, some false⟩, ⟨.frontwall, none, none, none, some true, some true⟩, ⟨.grid, none, none, none, some true, none⟩], [.block, .block, .block], ['T', 'T', 'T']⟩, ['L', 'T']⟩,
  ⟨.contact true true true, ['T'], ['L', 'L', 'L'], ⟨['T'], [⟨.probe, none, none, none, none, some true⟩, ⟨.grid, none, none, none, some true, none⟩], [.block], ['T']⟩, ⟨['L', 'L', 'L'], [⟨.probe, none, none, none, none, some true⟩, ⟨.backwall, some .solidFluid, some .reflection, some .under, some false, some false⟩, ⟨.frontwall, none, none, none, some true, some true⟩, ⟨.grid, none, none, none, some true, none⟩], [.block, .block, .block], ['L', 'L', 'L']⟩, ['T', 'L']⟩,
  ⟨.contact true true true, ['T'], ['L', 'L', 'T'], ⟨['T'], [⟨.probe, none, none, none, none, some true⟩, ⟨.grid, none, none, none, some true, none⟩], [.block], ['T']⟩, ⟨['T', 'L', 'L'], [⟨.probe, none, none, none, none, some true⟩, ⟨.backwall, some .solidFluid, some .reflection, some .under, some false, some false⟩, ⟨.frontwall, none, none, none, some true, some true⟩, ⟨.grid, none, none, none, some true, none⟩], [.block, .block, .block], ['T', 'L', 'L']⟩, ['T', 'L']⟩,
  ⟨.contact true true true, ['T'], ['L', 'T', 'L'], ⟨['T'], [⟨.probe, none, none, none, none, some true⟩, ⟨.grid, none, none, none, some true, none⟩], [.block], ['T']⟩, ⟨['L', 'T', 'L'], [⟨.probe, none, none, none, none, some true⟩, ⟨.backwall, some .solidFluid, some .reflection, some .under, some false, some false⟩, ⟨.frontwall, none, none, none, some true, some true⟩, ⟨.grid, none, none, none, some true, none⟩], [.block, .block, .block], ['L', 'T', 'L']⟩, ['T', 'L']⟩,
  ⟨.contact true true true, ['T'], ['L', 'T', 'T'], ⟨['T'], [⟨.probe, none, none, none, none, some true⟩, ⟨.grid, none, none, none, some true, none⟩], [.block], ['T']⟩, ⟨['T', 'T', 'L'], [⟨.probe, none, none, none, none, some true⟩, ⟨.backwall, some .solidFluid, some .reflection, some .under, some false, some false⟩, ⟨.frontwall, none, none, none, some true, some true⟩, ⟨.grid, none, none, none, some true, none⟩], [.block, .block, .block], ['T', 'T', 'L']⟩, ['T', 'L']⟩,
  ⟨.contact true true true, ['T'], ['T', 'L', 'L'], ⟨['T'], [⟨.probe, none, none, none, none, some true⟩, ⟨.grid, none, none, none, some true, none⟩], [.block], ['T']⟩, ⟨['L', 'L', 'T'], [⟨.probe, none, none, none, none, some true⟩, ⟨.backwall, some .solidFluid, some .reflection, some .under, some false, some false⟩, ⟨.frontwall, none, none, none, some true, some true⟩, ⟨.grid, none, none, none, some true, none⟩], [.block, .block, .block], ['L', 'L', 'T']⟩, ['T', 'T']⟩,
  ⟨.contact true true true, ['T'], ['T', 'L', 'T'], ⟨['T'], [⟨.probe, none, none, none, none, some true⟩, ⟨.grid, none, none, none, some true, none⟩], [.block], ['T']⟩, ⟨['T', 'L', 'T'], [⟨.probe, none, none, none, none, some true⟩, ⟨.backwall, some .solidFluid, some .reflection, some .under, some false, some false⟩, ⟨.frontwall, none, none, none, some true, some true⟩, ⟨.grid, none, none, none, some true, none⟩], [.block, .block, .block], ['T', 'L', 'T']⟩, ['T', 'T']⟩,
  ⟨.contact true true true, ['T'], ['T', 'T', 'L'], ⟨['T'], [⟨.probe, none, none, none, none, some true⟩, ⟨.grid, none, none, none, some true, none⟩], [.block], ['T']⟩, ⟨['L', 'T', 'T'], [⟨.probe, none, none, none, none, some true⟩, ⟨.backwall, some .solidFluid, some .reflection, some .under, some false, some false⟩, ⟨.frontwall, none, none, none, some true, some true⟩, ⟨.grid, none, none, none, some true, none⟩], [.block, .block, .block], ['L', 'T', 'T']⟩, ['T', 'T']⟩,
  ⟨.contact true true true, ['T'], ['T', 'T', 'T'], ⟨['T'], [⟨.probe, none, none, none, none, some true⟩, ⟨.grid, none, none, none, some true, none⟩], [.block], ['T']⟩, ⟨['T', 'T', 'T'], [⟨.probe, none, none, none, none, some true⟩, ⟨.backwall, some .solidFluid, some .reflection, some .under, some false, some false⟩, ⟨.frontwall, none, none, none, some true, some true⟩, ⟨.grid, none, none, none, some true, none⟩], [.block, .block, .block], ['T', 'T', 'T']⟩, ['T', 'T']⟩,
  ⟨.contact true true true, ['L', 'L', 'L'], ['L', 'L'], ⟨['L', 'L', 'L'], [⟨.probe, none, none, none, none, some true⟩, ⟨.backwall, some .solidFluid, some .reflection, some .under, some false, some false⟩, ⟨.frontwall, none, none, none, some true, some true⟩, ⟨.grid, none, none, none, some true, none⟩], [.block, .block, .block], ['L', 'L', 'L']⟩, ⟨['L', 'L'], [⟨.probe, none, none, none, none, some true⟩, ⟨.backwall, some .solidFluid, some .reflection, some .under, some false, some false⟩, ⟨.grid, none, none, none, some true, none⟩], [.block, .block], ['L', 'L']⟩, ['L', 'L']⟩,
  ⟨.contact true true true, ['L', 'L', 'L'], ['L', 'T'], ⟨['L', 'L', 'L'], [⟨.probe, none, none, none, none, some true⟩, ⟨.backwall, some .solidFluid, some .reflection, some .under, some false, some false⟩, ⟨.frontwall, none, none, none, some true, some true⟩, ⟨.grid, none, none, none, some true, none⟩], [.block, .block, .block], ['L', 'L', 'L']⟩, ⟨['T', 'L'], [⟨.probe, none, none, none, none, some true⟩, ⟨.backwall, some .solidFluid, some .reflection, some .under, some false, some false⟩, ⟨.grid, none, none, none, some true, none⟩], [.block, .block], ['T', 'L']⟩, ['L', 'L']⟩,
  ⟨.contact true true true, ['L', 'L', 'L'], ['T', 'L'], ⟨['L', 'L', 'L'], [⟨.probe, none, none, none, none, some true⟩, ⟨.backwall, some .solidFluid, some .reflection, some .under, some false, some false⟩, ⟨.frontwall, none, none, none, some true, some true⟩, ⟨.grid, none, none, none, some true, none⟩], [.block, .block, .block], ['L', 'L', 'L']⟩, ⟨['L', 'T'], [⟨.probe, none, none, none, none, some true⟩, ⟨.backwall, some .solidFluid, some .reflection, some .under, some false, some false⟩, ⟨.grid, none, none, none, some true, none⟩], [.block, .block], ['L', 'T']⟩, ['L', 'T']⟩,
  ⟨.contact true true true, ['L', 'L', 'L'], ['T', 'T'], ⟨['L', 'L', 'L'], [⟨.probe, none, none, none, none, some true⟩, ⟨.backwall, some .solidFluid, some .reflection, some .under, some false, some false⟩, ⟨.frontwall, none, none, none, some true, some true⟩, ⟨.grid, none, none, none, some true, none⟩], [.block, .block, .block], ['L', 'L', 'L']⟩, ⟨['T', 'T'], [⟨.probe, none, none, none, none, some true⟩, ⟨.backwall, some .solidFluid, some .reflection, some .under, some false, some false⟩, ⟨.grid, none, none, none, some true, none⟩], [.block, .block], ['T', 'T']⟩, ['L', 'T']⟩,
  ⟨.contact true true true, ['L', 'L', 'T'], ['L', 'L'], ⟨['L', 'L', 'T'], [⟨.probe, none, none, none, none, some true⟩, ⟨.backwall, some .solidFluid, some .reflection, some .under, some false, some false⟩, ⟨.frontwall, none, none, none, some true, some true⟩, ⟨.grid, none, none, none, some true, none⟩], [.block, .block, .block], ['L', 'L', 'T']⟩, ⟨['L', 'L'], [⟨.probe, none, none, none, none, some true⟩, ⟨.backwall, some .solidFluid, some .reflection, some .under, some false, some false⟩, ⟨.grid, none, none, none, some true, none⟩], [.block, .block], ['L', 'L']⟩, ['T', 'L']⟩,
  ⟨.contact true true true, ['L', 'L', 'T'], ['L', 'T'], ⟨['L', 'L', 'T'], [⟨.probe, none, none, none, none, some true⟩, ⟨.backwall, some .solidFluid, some .reflection, some .under, some false, some false⟩, ⟨.frontwall, none, none, none, some true, some true⟩, ⟨.grid, none, none, none, some true, none⟩], [.block, .block, .block], ['L', 'L', 'T']⟩, ⟨['T', 'L'], [⟨.probe, none, none, none, none, some true⟩, ⟨.backwall, some .solidFluid, some .reflection, some .under, some false, some false⟩, ⟨.grid, none, none, none, some true, none⟩], [.block, .block], ['T', 'L']⟩, ['T', 'L']⟩,
  ⟨.contact true true true, ['L', 'L', 'T'], ['T', 'L'], ⟨['L', 'L', 'T'], [⟨.probe, none, none, none, none, some true⟩, ⟨.backwall, some .solidFluid, some .reflection, some .under, some false, some false⟩, ⟨.frontwall, none, none, none, some true, some true⟩, ⟨.grid, none, none, none, some true, none⟩], [.block, .block, .block], ['L', 'L', 'T']⟩, ⟨['L', 'T'], [⟨.probe, none, none, none, none, some true⟩, ⟨.backwall, some .solidFluid, some .reflection, some .under, some false, some false⟩, ⟨.grid, none, none, none, some true, none⟩], [.block, .block], ['L', 'T']⟩, ['T', 'T']⟩,
  ⟨.contact true true true, ['L', 'L', 'T'], ['T', 'T'], ⟨['L', 'L', 'T'], [⟨.probe, none, none, none, none, some true⟩, ⟨.backwall, some .solidFluid, some .reflection, some .under, some false, some false⟩, ⟨.frontwall, none, none, none, some true, some true⟩, ⟨.grid, none, none, none, some true, none⟩], [.block, .block, .block], ['L', 'L', 'T']⟩, ⟨['T', 'T'], [⟨.probe, none, none, none, none, some true⟩, ⟨.backwall, some .solidFluid, some .reflection, some .under, some false, some false⟩, ⟨.grid, none, none, none, some true, none⟩], [.block, .block], ['T', 'T']⟩, ['T', 'T']⟩,
  ⟨.contact true true true, ['L', 'T', 'L'], ['L', 'L'], ⟨['L', 'T', 'L'], [⟨.probe, none, none, none, none, some true⟩, ⟨.backwall, some .solidFluid, some .reflection, some .under, some false, some false⟩, ⟨.frontwall, none, none, none, some true, some true⟩, ⟨.grid, none, none, none, some true, none⟩], [.block, .block, .block], ['L', 'T', 'L']⟩, ⟨['L', 'L'], [⟨.probe, none, none, none, none, some true⟩, ⟨.backwall, some .solidFluid, some .reflection, some .under, some false, some false⟩, ⟨.grid, none, none, none, some true, none⟩], [.block, .block], ['L', 'L']⟩, ['L', 'L']⟩,
  ⟨.contact true true true, ['L', 'T', 'L'], ['L', 'T'], ⟨['L', 'T', 'L'], [⟨.probe, none, none, none, none, some true⟩, ⟨.backwall, some .solidFluid, some .reflection, some .under, some false, some false⟩, ⟨.frontwall, none, none, none, some true, some true⟩, ⟨.grid, none, none, none, some true, none⟩], [.block, .block, .block], ['L', 'T', 'L']⟩, ⟨['T', 'L'], [⟨.probe, none, none, none, none, some true⟩, ⟨.backwall, some .solidFluid, some .reflection, some .under, some false, some false⟩, ⟨.grid, none, none, none, some true, none⟩], [.block, .block], ['T', 'L']⟩, ['L', 'L']⟩,
  ⟨.contact true true true, ['L', 'T', 'L'], ['T', 'L'], ⟨['L', 'T', 'L'], [⟨.probe, none, none, none, none, some true⟩, ⟨.backwall, some .solidFluid, some .reflection, some .under, some false, some false⟩, ⟨.frontwall, none, none, none, some true, some true⟩, ⟨.grid, none, none, none, some true, none⟩], [.block, .block, .block], ['L', 'T', 'L']⟩, ⟨['L', 'T'], [⟨.probe, none, none, none, none, some true⟩, ⟨.backwall, some .solidFluid, some .reflection, some .under, some false, some false⟩, ⟨.grid, none, none, none, some true, none⟩], [.block, .block], ['L', 'T']⟩, ['L', 'T']⟩,
  ⟨.contact true true true, ['L', 'T', 'L'], ['T', 'T'], ⟨['L', 'T', 'L'], [⟨.probe, none, none, none, none, some true⟩, ⟨.backwall, some .solidFluid, some .reflection, some .under, some false, some false⟩, ⟨.frontwall, none, none, none, some true, some true⟩, ⟨.grid, none, none, none, some true, none⟩], [.block, .block, .block], ['L', 'T', 'L']⟩, ⟨['T', 'T'], [⟨.probe, none, none, none, none, some true⟩, ⟨.backwall, some .solidFluid, some .reflection, some .under, some false, some false⟩, ⟨.grid, none, none, none, some true, none⟩], [.block, .block], ['T', 'T']⟩, ['L', 'T']⟩,
  ⟨.contact true true true, ['L', 'T', 'T'], ['L', 'L'], ⟨['L', 'T', 'T'], [⟨.probe, none, none, none, none, some true⟩, ⟨.backwall, some .solidFluid, some .reflection, some .under, some false, some false⟩, ⟨.frontwall, none, none, none, some true, some true⟩, ⟨.grid, none, none, none, some true, none⟩], [.block, .block, .block], ['L', 'T', 'T']⟩, ⟨['L', 'L'], [⟨.probe, none, none, none, none, some true⟩, ⟨.backwall, some .solidFluid, some .reflection, some .under, some false, some false⟩, ⟨.grid, none, none, none, some true, none⟩], [.block, .block], ['L', 'L']⟩, ['T', 'L']⟩,
  ⟨.contact true true true, ['L', 'T', 'T'], ['L', 'T'], ⟨['L', 'T', 'T'], [⟨.probe, none, none, none, none, some true⟩, ⟨.backwall, some .solidFluid, some .reflection, some .under, some false, some false⟩, ⟨.frontwall, none, none, none, some true, some true⟩, ⟨.grid, none, none, none, some true, none⟩], [.block, .block, .block], ['L', 'T', 'T']⟩, ⟨['T', 'L'], [⟨.probe, none, none, none, none, some true⟩, ⟨.backwall, some .solidFluid, some .reflection, some .under, some false, some false⟩, ⟨.grid, none, none, none, some true, none⟩], [.block, .block], ['T', 'L']⟩, ['T', 'L']⟩,
  ⟨.contact true true true, ['L', 'T', 'T'], ['T', 'L'], ⟨['L', 'T', 'T'], [⟨.probe, none, none, none, none, some true⟩, ⟨.backwall, some .solidFluid, some .reflection, some .under, some false, some false⟩, ⟨.frontwall, none, none, none, some true, some true⟩, ⟨.grid, none, none, none, some true, none⟩], [.block, .block, .block], ['L', 'T', 'T']⟩, ⟨['L', 'T'], [⟨.probe, none, none, none, none, some true⟩, ⟨.backwall, some .solidFluid, some .reflection, some .under, some false, some false⟩, ⟨.grid, none, none, none, some true, none⟩], [.block, .block], ['L', 'T']⟩, ['T', 'T']⟩,
  ⟨.contact true true true, ['L', 'T', 'T'], ['T', 'T'], ⟨['L', 'T', 'T'], [⟨.probe, none, none, none, none, some true⟩, ⟨.backwall, some .solidFluid, some .reflection, some .under, some false, some false⟩, ⟨.frontwall, none, none, none, some true, some true⟩, ⟨.grid, none, none, none, some true, none⟩], [.block, .block, .block], ['L', 'T', 'T']⟩, ⟨['T', 'T'], [⟨.probe, none, none, none, none, some true⟩, ⟨.backwall, some .solidFluid, some .reflection, some .under, some false, some false⟩, ⟨.grid, none, none, none, some true, none⟩], [.block, .block], ['T', 'T']⟩, ['T', 'T']⟩
]

def table7 : List ViewEntry := [
  ⟨.contact true true true, ['T', 'L', 'L'], ['L', 'L'], ⟨['T', 'L', 'L'], [⟨.probe, none, none, none, none, some true⟩, ⟨.backwall, some .solidFluid, some .reflection, some .under, some false, some false⟩, ⟨.frontwall, none, none, none, some true, some true⟩, ⟨.grid, none, none, none, some true, none⟩], [.block, .block, .block], ['T', 'L', 'L']⟩, ⟨['L', 'L'], [⟨.probe, none, none, none, none, some true⟩, ⟨.backwall, some .solidFluid, some .reflection, some .under, some false, some false⟩, ⟨.grid, none, none, none, some true, none⟩], [.block, .block], ['L', 'L']⟩, ['L', 'L']⟩,
  ⟨.contact true true true, ['T', 'L', 'L'], ['L', 'T'], ⟨['T', 'L', 'L'], [⟨.probe, none, none, none, none, some true⟩, ⟨.backwall, some .solidFluid, some .reflection, some .under, some false, some false⟩, ⟨.frontwall, none, none, none, some true, some true⟩, ⟨.grid, none, none, none, some true, none⟩], [.block, .block, .block], ['T', 'L', 'L']⟩, ⟨['T', 'L'], [⟨.probe, none, none, none, none, some true⟩, ⟨.backwall, some .solidFluid, some .reflection, some .under, some false, some false⟩, ⟨.grid, none, none, none, some true, none⟩], [.block, .block], ['T', 'L']⟩, ['L', 'L']⟩,
  ⟨.contact true true true, ['T', 'L', 'L'], ['T', 'L'], ⟨['T', 'L', 'L'], [⟨.probe, none, none, none, none, some true⟩, ⟨.backwall, some .solidFluid, some .reflection, some .under, some false, some false⟩, ⟨.frontwall, none, none, none, some true, some true⟩, ⟨.grid, none, none, none, some true, none⟩], [.block, .block, .block], ['T', 'L', 'L']⟩, ⟨['L', 'T'], [⟨.probe, none, none, none, none, some true⟩, ⟨.backwall, some .solidFluid, some .reflection, some .under, some false, some false⟩, ⟨.grid, none, none, none, some true, none⟩], [.block, .block], ['L', 'T']⟩, ['L', 'T']⟩,
  ⟨.contact true true true, ['T', 'L', 'L'], ['T', 'T'], ⟨['T', 'L', 'L'], [⟨.probe, none, none, none, none, some true⟩, ⟨.backwall, some .solidFluid, some .reflection, some .under, some false, some false⟩, ⟨.frontwall, none, none, none, some true, some true⟩, ⟨.grid, none, none, none, some true, none⟩], [.block, .block, .block], ['T', 'L', 'L']⟩, ⟨['T', 'T'], [⟨.probe, none, none, none, none, some true⟩, ⟨.backwall, some .solidFluid, some .reflection, some .under, some false, some false⟩, ⟨.grid, none, none, none, some true, none⟩], [.block, .block], ['T', 'T']⟩, ['L', 'T']⟩,
  ⟨.contact true true true, ['T', 'L', 'T'], ['L', 'L'], ⟨['T', 'L', 'T'], [⟨.probe, none, none, none, none, some true⟩, ⟨.backwall, some .solidFluid, some .reflection, some .under, some false, some false⟩, ⟨.frontwall, none, none, none, some true, some true⟩, ⟨.grid, none, none, none, some true, none⟩], [.block, .block, .block], ['T', 'L', 'T']⟩, ⟨['L', 'L'], [⟨.probe, none, none, none, none, some true⟩, ⟨.backwall, some .solidFluid, some .reflection, some .under, some false, some false⟩, ⟨.grid, none, none, none, some true, none⟩], [.block, .block], ['L', 'L']⟩, ['T', 'L']⟩,
  ⟨.contact true true true, ['T', 'L', 'T'], ['L', 'T'], ⟨['T', 'L', 'T'], [⟨.probe, none, none, none, none, some true⟩, ⟨.backwall, some .solidFluid, some .reflection, some .under, some false, some false⟩, ⟨.frontwall, none, none, none, some true, some true⟩, ⟨.grid, none, none, none, some true, none⟩], [.block, .block, .block], ['T', 'L', 'T']⟩, ⟨['T', 'L'], [⟨.probe, none, none, none, none, some true⟩, ⟨.backwall, some .solidFluid, some .reflection, some .under, some false, some false⟩, ⟨.grid, none, none, none, some true, none⟩], [.block, .block], ['T', 'L']⟩, ['T', 'L']⟩,
  ⟨.contact true true true, ['T', 'L', 'T'], ['T', 'L'], ⟨['T', 'L', 'T'], [⟨.probe, none, none, none, none, some true⟩, ⟨.backwall, some .solidFluid, some .reflection, some .under, some false, some false⟩, ⟨.frontwall, none, none, none, some true, some true⟩, ⟨.grid, none, none, none, some true, none⟩], [.block, .block, .block], ['T', 'L', 'T']⟩, ⟨['L', 'T'], [⟨.probe, none, none, none, none, some true⟩, ⟨.backwall, some .solidFluid, some .reflection, some .under, some false, some false⟩, ⟨.grid, none, none, none, some true, none⟩], [.block, .block], ['L', 'T']⟩, ['T', 'T']⟩,
  ⟨.contact true true true, ['T', 'L', 'T'], ['T', 'T'], ⟨['T', 'L', 'T'], [⟨.probe, none, none, none, none, some true⟩, ⟨.backwall, some .solidFluid, some .reflection, some .under, some false, some false⟩, ⟨.frontwall, none, none, none, some true, some true⟩, ⟨.grid, none, none, none, some true, none⟩], [.block, .block, .block], ['T', 'L', 'T']⟩, ⟨['T', 'T'], [⟨.probe, none, none, none, none, some true⟩, ⟨.backwall, some .solidFluid, some .reflection, some .under, some false, some false⟩, ⟨.grid, none, none, none, some true, none⟩], [.block, .block], ['T', 'T']⟩, ['T', 'T']⟩,
  ⟨.contact true true true, ['T', 'T', 'L'], ['L', 'L'], ⟨['T', 'T', 'L'], [⟨.probe, none, none, none, none, some true⟩, ⟨.backwall, some .solidFluid, some .reflection, some .under, some false, some false⟩, ⟨.frontwall, none, none, none, some true, some true⟩, ⟨.grid, none, none, none, some true, none⟩], [.block, .block, .block], ['T', 'T', 'L']⟩, ⟨['L', 'L'], [⟨.probe, none, none, none, none, some true⟩, ⟨.backwall, some .solidFluid, some .reflection, some .under, some false, some false⟩, ⟨.grid, none, none, none, some true, none⟩], [.block, .block], ['L', 'L']⟩, ['L', 'L']⟩,
  ⟨.contact true true true, ['T', 'T', 'L'], ['L', 'T'], ⟨['T', 'T', 'L'], [⟨.probe, none, none, none, none, some true⟩, ⟨.backwall, some .solidFluid, some .reflection, some .under, some false, some false⟩, ⟨.frontwall, none, none, none, some true, some true⟩, ⟨.grid, none, none, none, some true, none⟩], [.block, .block, .block], ['T', 'T', 'L']⟩, ⟨['T', 'L'], [⟨.probe, none, none, none, none, some true⟩, ⟨.backwall, some .solidFluid, some .reflection, some .under, some false, some false⟩, ⟨.grid, none, none, none, some true, none⟩], [.block, .block], ['T', 'L']⟩, ['L', 'L']⟩,
  ⟨.contact true true true, ['T', 'T', 'L'], ['T', 'L'], ⟨['T', 'T', 'L'], [⟨.probe, none, none, none, none, some true⟩, ⟨.backwall, some .solidFluid, some .reflection, some .under, some false, some false⟩, ⟨.frontwall, none, none, none, some true, some true⟩, ⟨.grid, none, none, none, some true, none⟩], [.block, .block, .block], ['T', 'T', 'L']⟩, ⟨['L', 'T'], [⟨.probe, none, none, none, none, some true⟩, ⟨.backwall, some .solidFluid, some .reflection, some .under, some false, some false⟩, ⟨.grid, none, none, none, some true, none⟩], [.block, .block], ['L', 'T']⟩, ['L', 'T']⟩,
  ⟨.contact true true true, ['T', 'T', 'L'], ['T', 'T'], ⟨['T', 'T', 'L'], [⟨.probe, none, none, none, none, some true⟩, ⟨.backwall, some .solidFluid, some .reflection, some .under, some false, some false⟩, ⟨.frontwall, none, none, none, some true, some true⟩, ⟨.grid, none, none, none, some true, none⟩], [.block, .block, .block], ['T', 'T', 'L']⟩, ⟨['T', 'T'], [⟨.probe, none, none, none, none, some true⟩, ⟨.backwall, some .solidFluid, some .reflection, some .under, some false, some false⟩, ⟨.grid, none, none, none, some true, none⟩], [.block, .block], ['T', 'T']⟩, ['L', 'T']⟩,
  ⟨.contact true true true, ['T', 'T', 'T'], ['L', 'L'], ⟨['T', 'T', 'T'], [⟨.probe, none, none, none, none, some true⟩, ⟨.backwall, some .solidFluid, some .reflection, some .under, some false, some false⟩, ⟨.frontwall, none, none, none, some true, some true⟩, ⟨.grid, none, none, none, some true, none⟩], [.block, .block, .block], ['T', 'T', 'T']⟩, ⟨['L', 'L'], [⟨.probe, none, none, none, none, some true⟩, ⟨.backwall, some .solidFluid, some .reflection, some .under, some false, some false⟩, ⟨.grid, none, none, none, some true, none⟩], [.block, .block], ['L', 'L']⟩, ['T', 'L']⟩,
  ⟨.contact true true true, ['T', 'T', 'T'], ['L', 'T'], ⟨['T', 'T', 'T'], [⟨.probe, none, none, none, none, some true⟩, ⟨.backwall, some .solidFluid, some .reflection, some .under, some false, some false⟩, ⟨.frontwall, none, none, none, some true, some true⟩, ⟨.grid, none, none, none, some true, none⟩], [.block, .block, .block], ['T', 'T', 'T']⟩, ⟨['T', 'L'], [⟨.probe, none, none, none, none, some true⟩, ⟨.backwall, some .solidFluid, some .reflection, some .under, some false, some false⟩, ⟨.grid, none, none, none, some true, none⟩], [.block, .block], ['T', 'L']⟩, ['T', 'L']⟩,
  ⟨.contact true true true, ['T', 'T', 'T'], ['T', 'L'], ⟨['T', 'T', 'T'], [⟨.probe, none, none, none, none, some true⟩, ⟨.backwall, some .solidFluid, some .reflection, some .under, some false, some false⟩, ⟨.frontwall, none, none, none, some true, some true⟩, ⟨.grid, none, none, none, some true, none⟩], [.block, .block, .block], ['T', 'T', 'T']⟩, ⟨['L', 'T'], [⟨.probe, none, none, none, none, some true⟩, ⟨.backwall, some .solidFluid, some .reflection, some .under, some false, some false⟩, ⟨.grid, none, none, none, some true, none⟩], [.block, .block], ['L', 'T']⟩, ['T', 'T']⟩,
  ⟨.contact true true true, ['T', 'T', 'T'], ['T', 'T'], ⟨['T', 'T', 'T'], [⟨.probe, none, none, none, none, some true⟩, ⟨.backwall, some .solidFluid, some .reflection, some .under, some false, some false⟩, ⟨.frontwall, none, none, none, some true, some true⟩, ⟨.grid, none, none, none, some true, none⟩], [.block, .block, .block], ['T', 'T', 'T']⟩, ⟨['T', 'T'], [⟨.probe, none, none, none, none, some true⟩, ⟨.backwall, some .solidFluid, some .reflection, some .under, some false, some false⟩, ⟨.grid, none, none, none, some true, none⟩], [.block, .block], ['T', 'T']⟩, ['T', 'T']⟩,
  ⟨.contact true true true, ['L', 'L'], ['L', 'L', 'L'], ⟨['L', 'L'], [⟨.probe, none, none, none, none, some true⟩, ⟨.backwall, some .solidFluid, some .reflection, some .under, some false, some false⟩, ⟨.grid, none, none, none, some true, none⟩], [.block, .block], ['L', 'L']⟩, ⟨['L', 'L', 'L'], [⟨.probe, none, none, none, none, some true⟩, ⟨.backwall, some .solidFluid, some .reflection, some .under, some false, some false⟩, ⟨.frontwall, none, none, none, some true, some true⟩, ⟨.grid, none, none, none, some true, none⟩], [.block, .block, .block], ['L', 'L', 'L']⟩, ['L', 'L']⟩,
  ⟨.contact true true true, ['L', 'L'], ['L', 'L', 'T'], ⟨['L', 'L'], [⟨.probe, none, none, none, none, some true⟩, ⟨.backwall, some .solidFluid, some .reflection, some .under, some false, some false⟩, ⟨.grid, none, none, none, some true, none⟩], [.block, .block], ['L', 'L']⟩, ⟨['T', 'L', 'L'], [⟨.probe, none, none, none, none, some true⟩, ⟨.backwall, some .solidFluid, some .reflection, some .under, some false, some false⟩, ⟨.frontwall, none, none, none, some true, some true⟩, ⟨.grid, none, none, none, some true, none⟩], [.block, .block, .block], ['T', 'L', 'L']⟩, ['L', 'L']⟩,
  ⟨.contact true true true, ['L', 'L'], ['L', 'T', 'L'], ⟨['L', 'L'], [⟨.probe, none, none, none, none, some true⟩, ⟨.backwall, some .solidFluid, some .reflection, some .under, some false, some false⟩, ⟨.grid, none, none, none, some true, none⟩], [.block, .block], ['L', 'L']⟩, ⟨['L', 'T', 'L'], [⟨.probe, none, none, none, none, some true⟩, ⟨.backwall, some .solidFluid, some .reflection, some .under, some false, some false⟩, ⟨.frontwall, none, none, none, some true, some true⟩, ⟨.grid, none, none, none, some true, none⟩], [.block, .block, .block], ['L', 'T', 'L']⟩, ['L', 'L']⟩,
  ⟨.contact true true true, ['L', 'L'], ['L', 'T', 'T'], ⟨['L', 'L'], [⟨.probe, none, none, none, none, some true⟩, ⟨.backwall, some .solidFluid, some .reflection, some .under, some false, some false⟩, ⟨.grid, none, none, none, some true, none⟩], [.block, .block], ['L', 'L']⟩, ⟨['T', 'T', 'L'], [⟨.probe, none, none, none, none, some true⟩, ⟨.backwall, some .solidFluid, some .reflection, some .under, some false, some false⟩, ⟨.frontwall, none, none, none, some true, some true⟩, ⟨.grid, none, none, none, some true, none⟩], [.block, .block, .block], ['T', 'T', 'L']⟩, ['L', 'L']⟩,
  ⟨.contact true true true, ['L', 'L'], ['T', 'L', 'L'], ⟨['L', 'L'], [⟨.probe, none, none, none, none, some true⟩, ⟨.backwall, some .solidFluid, some .reflection, some .under, some false, some false⟩, ⟨.grid, none, none, none, some true, none⟩], [.block, .block], ['L', 'L']⟩, ⟨['L', 'L', 'T'], [⟨.probe, none, none, none, none, some true⟩, ⟨.backwall, some .solidFluid, some .reflection, some .under, some false, some false⟩, ⟨.frontwall, none, none, none, some true, some true⟩, ⟨.grid, none, none, none, some true, none⟩], [.block, .block, .block], ['L', 'L', 'T']⟩, ['L', 'T']⟩,
  ⟨.contact true true true, ['L', 'L'], ['T', 'L', 'T'], ⟨['L', 'L'], [⟨.probe, none, none, none, none, some true⟩, ⟨.backwall, some .solidFluid, some .reflection, some .under, some false, some false⟩, ⟨.grid, none, none, none, some true, none⟩], [.block, .block], ['L', 'L']⟩, ⟨['T', 'L', 'T'], [⟨.probe, none, none, none, none, some true⟩, ⟨.backwall, some .solidFluid, some .reflection, some .under, some false, some false⟩, ⟨.frontwall, none, none, none, some true, some true⟩, ⟨.grid, none, none, none, some true, none⟩], [.block, .block, .block], ['T', 'L', 'T']⟩, ['L', 'T']⟩,
  ⟨.contact true true true, ['L', 'L'], ['T', 'T', 'L'], ⟨['L', 'L'], [⟨.probe, none, none, none, none, some true⟩, ⟨.backwall, some .solidFluid, some .reflection, some .under, some false, some false⟩, ⟨.grid, none, none, none, some true, none⟩], [.block, .block], ['L', 'L']⟩, ⟨['L', 'T', 'T'], [⟨.probe, none, none, none, none, some true⟩, ⟨.backwall, some .solidFluid, some .reflection, some .under, some false, some false⟩, ⟨.frontwall, none, none, none, some true, some true⟩, ⟨.grid, none, none, none, some true, none⟩], [.block, .block, .block], ['L', 'T', 'T']⟩, ['L', 'T']⟩,
  ⟨.contact true true true, ['L', 'L'], ['T', 'T', 'T'], ⟨['L', 'L'], [⟨.probe, none, none, none, none, some true⟩, ⟨.backwall, some .solidFluid, some .reflection, some .under, some false, some false⟩, ⟨.grid, none, none, none, some true, none⟩], [.block, .block], ['L', 'L']⟩, ⟨['T', 'T', 'T'], [⟨.probe, none, none, none, none, some true⟩, ⟨.backwall, some .solidFluid, some .reflection, some .under, some false, some false⟩, ⟨.frontwall, none, none, none, some true, some true⟩, ⟨.grid, none, none, none, some true, none⟩], [.block, .block, .block], ['T', 'T', 'T']⟩, ['L', 'T']⟩,
  ⟨.contact true true true, ['L', 'T'], ['L', 'L', 'L'], ⟨['L', 'T'], [⟨.probe, none, none, none, none, some true⟩, ⟨.backwall, some .solidFluid, some .reflection, some .under, some false, some false⟩, ⟨.grid, none, none, none, some true, none⟩], [.block, .block], ['L', 'T']⟩, ⟨['L', 'L', 'L'], [⟨.probe, none, none, none, none, some true⟩, ⟨.backwall, some .solidFluid, some .reflection, some .under, some false, some false⟩, ⟨.frontwall, none, none, none, some true, some true⟩, ⟨.grid, none, none, none, some true, none⟩], [.block, .block, .block], ['L', 'L', 'L']⟩, ['T', 'L']⟩,
  ⟨.contact true true true, ['L', 'T'], ['L', 'L', 'T'], ⟨['L', 'T'], [⟨.probe, none, none, none, none, some true⟩, ⟨.backwall, some .solidFluid, some .reflection, some .under, some false, some false⟩, ⟨.grid, none, none, none, some true, none⟩], [.block, .block], ['L', 'T']⟩, ⟨['T', 'L', 'L'], [⟨.probe, none, none, none, none, some true⟩, ⟨.backwall, some .solidFluid, some .reflection, some .under, some false, some false⟩, ⟨.frontwall, none, none, none, some true, some true⟩, ⟨.grid, none, none, none, some true, none⟩], [.block, .block, .block], ['T', 'L', 'L']⟩, ['T', 'L']⟩,
  ⟨.contact true true true, ['L', 'T'], ['L', 'T', 'L'], ⟨['L', 'T'], [⟨.probe, none, none, none, none, some true⟩, ⟨.backwall, some .solidFluid, some .reflection, some .under, some false, some false⟩, ⟨.grid, none, none, none, some true, none⟩], [.block, .block], ['L', 'T']⟩, ⟨['L', 'T', 'L'], [⟨.probe, none, none, none, none, some true⟩, ⟨.backwall, some .solidFluid, some .reflection, some .under, some false, some false⟩, ⟨.frontwall, none, none, none, some true, some true⟩, ⟨.grid, none, none, none, some true, none⟩], [.block, .block, .block], ['L', 'T', 'L']⟩, ['T', 'L']⟩,
  ⟨.contact true true true, ['L', 'T'], ['L', 'T', 'T'], ⟨['L', 'T'], [⟨.probe, none, none, none, none, some true⟩, ⟨.backwall, some .solidFluid, some .reflection, some .under, some false, some false⟩, ⟨.grid, none, none, none, some true, none⟩], [.block, .block], ['L', 'T']⟩, ⟨['T', 'T', 'L'], [⟨.probe, none, none, none, none, some true⟩, ⟨.backwall, some .solidFluid, some .reflection, some .under, some false, some false⟩, ⟨.frontwall, none, none, none, some true, some true⟩, ⟨.grid, none, none, none, some true, none⟩], [.block, .block, .block], ['T', 'T', 'L']⟩, ['T', 'L']⟩,
  ⟨.contact true true true, ['L', 'T'], ['T', 'L', 'L'], ⟨['L', 'T'], [⟨.probe, none, none, none, none, some true⟩, ⟨.backwall, some .solidFluid, some .reflection, some .under, some false, some false⟩, ⟨.grid, none, none, none, some true, none⟩], [.block, .block], ['L', 'T']⟩, ⟨['L', 'L', 'T'], [⟨.probe, none, none, none, none, some true⟩, ⟨.backwall, some .solidFluid, some .reflection, some .under, some false, some false⟩, ⟨.frontwall, none, none, none, some true, some true⟩, ⟨.grid, none, none, none, some true, none⟩], [.block, .block, .block], ['L', 'L', 'T']⟩, ['T', 'T']⟩,
  ⟨.contact true true true, ['L', 'T'], ['T', 'L', 'T'], ⟨['L', 'T'], [⟨.probe, none, none, none, none, some true⟩, ⟨.backwall, some .solidFluid, some .reflection, some .under, some false, some false⟩, ⟨.grid, none, none, none, some true, none⟩], [.block, .block], ['L', 'T']⟩, ⟨['T', 'L', 'T'], [⟨.probe, none, none, none, none, some true⟩, ⟨.backwall, some .solidFluid, some .reflection, some .under, some false, some false⟩, ⟨.frontwall, none, none, none, some true, some true⟩, ⟨.grid, none, none, none, some true, none⟩], [.block, .block, .block], ['T', 'L', 'T']⟩, ['T', 'T']⟩,
  ⟨.contact true true true, ['L', 'T'], ['T', 'T', 'L'], ⟨['L', 'T'], [⟨.probe, none, none, none, none, some true⟩, ⟨.backwall, some .solidFluid, some .reflection, some .under, some false, some false⟩, ⟨.grid, none, none, none, some true, none⟩], [.block, .block], ['L', 'T']⟩, ⟨['L', 'T', 'T'], [⟨.probe, none, none, none, none, some true⟩, ⟨.backwall, some .solidFluid, some .reflection, some .under, some false, some false⟩, ⟨.frontwall, none, none, none, some true, some true⟩, ⟨.grid, none, none, none, some true, none⟩], [.block, .block, .block], ['L', 'T', 'T']⟩, ['T', 'T']⟩,
  ⟨.contact true true true, ['L', 'T'], ['T', 'T', 'T'], ⟨['L', 'T'], [⟨.probe, none, none, none, none, some true⟩, ⟨.backwall, some .solidFluid, some .reflection, some .under, some false, some false⟩, ⟨.grid, none, none, none, some true, none⟩], [.block, .block], ['L', 'T']⟩, ⟨['T', 'T', 'T'], [⟨.probe, none, none, none, none, some true⟩, ⟨.backwall, some .solidFluid, some .reflection, some .under, some false, some false⟩, ⟨.frontwall, none, none, none, some true, some true⟩, ⟨.grid, none, none, none, some true, none⟩], [.block, .block, .block], ['T', 'T', 'T']⟩, ['T', 'T']⟩,
  ⟨.contact true true true, ['T', 'L'], ['L', 'L', 'L'], ⟨['T', 'L'], [⟨.probe, none, none, none, none, some true⟩, ⟨.backwall, some .solidFluid, some .reflection, some .under, some false, some false⟩, ⟨.grid, none, none, none, some true, none⟩], [.block, .block], ['T', 'L']⟩, ⟨['L', 'L', 'L'], [⟨.probe, none, none, none, none, some true⟩, ⟨.backwall, some .solidFluid, some .reflection, some .under, some false, some false⟩, ⟨.frontwall, none, none, none, some true, some true⟩, ⟨.grid, none, none, none, some true, none⟩], [.block, .block, .block], ['L', 'L', 'L']⟩, ['L', 'L']⟩,
  ⟨.contact true true true, ['T', 'L'], ['L', 'L', 'T'], ⟨['T', 'L'], [⟨.probe, none, none, none, none, some true⟩, ⟨.backwall, some .solidFluid, some .reflection, some .under, some false, some false⟩, ⟨.grid, none, none, none, some true, none⟩], [.block, .block], ['T', 'L']⟩, ⟨['T', 'L', 'L'], [⟨.probe, none, none, none, none, some true⟩, ⟨.backwall, some .solidFluid, some .reflection, some .under, some false, some false⟩, ⟨.frontwall, none, none, none, some true, some true⟩, ⟨.grid, none, none, none, some true, none⟩], [.block, .block, .block], ['T', 'L', 'L']⟩, ['L', 'L']⟩,
  ⟨.contact true true true, ['T', 'L'], ['L', 'T', 'L'], ⟨['T', 'L'], [⟨.probe, none, none, none, none, some true⟩, ⟨.backwall, some .solidFluid, some .reflection, some .under, some false, some false⟩, ⟨.grid, none, none, none, some true, none⟩], [.block, .block], ['T', 'L']⟩, ⟨['L', 'T', 'L'], [⟨.probe, none, none, none, none, some true⟩, ⟨.backwall, some .solidFluid, some .reflection, some .under, some false, some false⟩, ⟨.frontwall, none, none, none, some true, some true⟩, ⟨.grid, none, none, none, some true, none⟩], [.block, .block, .block], ['L', 'T', 'L']⟩, ['L', 'L']⟩,
  ⟨.contact true true true, ['T', 'L'], ['L', 'T', 'T'], ⟨['T', 'L'], [⟨.probe, none, none, none, none, some true⟩, ⟨.backwall, some .solidFluid, some .reflection, some .under, some false, some false⟩, ⟨.grid, none, none, none, some true, none⟩], [.block, .block], ['T', 'L']⟩, ⟨['T', 'T', 'L'], [⟨.probe, none, none, none, none, some true⟩, ⟨.backwall, some .solidFluid, some .reflection, some .under, some false, some false⟩, ⟨.frontwall, none, none, none, some true, some true⟩, ⟨.grid, none, none, none, some true, none⟩], [.block, .block, .block], ['T', 'T', 'L']⟩, ['L', 'L']⟩,
  ⟨.contact true true true, ['T', 'L'], ['T', 'L', 'L'], ⟨['T', 'L'], [⟨.probe, none, none, none, none, some true⟩, ⟨.backwall, some .solidFluid, some .reflection, some .under, some false, some false⟩, ⟨.grid, none, none, none, some true, none⟩], [.block, .block], ['T', 'L']⟩, ⟨['L', 'L', 'T'], [⟨.probe, none, none, none, none, some true⟩, ⟨.backwall, some .solidFluid, some .reflection, some .under, some false, some false⟩, ⟨.frontwall, none, none, none, some true, some true⟩, ⟨.grid, none, none, none, some true, none⟩], [.block, .block, .block], ['L', 'L', 'T']⟩, ['L', 'T']⟩,
  ⟨.contact true true true, ['T', 'L'], ['T', 'L', 'T'], ⟨['T', 'L'], [⟨.probe, none, none, none, none, some true⟩, ⟨.backwall, some .solidFluid, some .reflection, some .under, some false, some false⟩, ⟨.grid, none, none, none, some true, none⟩], [.block, .block], ['T', 'L']⟩, ⟨['T', 'L', 'T'], [⟨.probe, none, none, none, none, some true⟩, ⟨.backwall, some .solidFluid, some .reflection, some .under, some false, some false⟩, ⟨.frontwall, none, none, none, some true, some true⟩, ⟨.grid, none, none, none, some true, none⟩], [.block, .block, .block], ['T', 'L', 'T']⟩, ['L', 'T']⟩,
  ⟨.contact true true true, ['T', 'L'], ['T', 'T', 'L'], ⟨['T', 'L'], [⟨.probe, none, none, none, none, some true⟩, ⟨.backwall, some .solidFluid, some .reflection, some .under, some false, some false⟩, ⟨.grid, none, none, none, some true, none⟩], [.block, .block], ['T', 'L']⟩, ⟨['L', 'T', 'T'], [⟨.probe, none, none, none, none, some true⟩, ⟨.backwall, some .solidFluid, some .reflection, some .under, some false, some false⟩, ⟨.frontwall, none, none, none, some true, some true⟩, ⟨.grid, none, none, none, some true, none⟩], [.block, .block, .block], ['L', 'T', 'T']⟩, ['L', 'T']⟩,
  ⟨.contact true true true, ['T', 'L'], ['T', 'T', 'T'], ⟨['T', 'L'], [⟨.probe, none, none, none, none, some true⟩, ⟨.backwall, some .solidFluid, some .reflection, some .under, some false, some false⟩, ⟨.grid, none, none, none, some true, none⟩], [.block, .block], ['T', 'L']⟩, ⟨['T', 'T', 'T'], [⟨.probe, none, none, none, none, some true⟩, ⟨.backwall, some .solidFluid, some .reflection, some .under, some false, some false⟩, ⟨.frontwall, none, none, none, some true, some true⟩, ⟨.grid, none, none, none, some true, none⟩], [.block, .block, .block], ['T', 'T', 'T']⟩, ['L', 'T']⟩
]

def table8 : List ViewEntry := [
  ⟨.contact true true true, ['T', 'T'], ['L', 'L', 'L'], ⟨['T', 'T'], [⟨.probe, none, none, none, none, some true⟩, ⟨.backwall, some .solidFluid, some .reflection, some .under, some false, some false⟩, ⟨.grid, none, none, none, some true, none⟩], [.block, .block], ['T', 'T']⟩, ⟨['L', 'L', 'L'], [⟨.probe, none, none, none, none, some true⟩, ⟨.backwall, some .solidFluid, some .reflection, some .under, some false, some false⟩, ⟨.frontwall, none, none, none, some true, some true⟩, ⟨.grid, none, none, none, some true, none⟩], [.block, .block, .block], ['L', 'L', 'L']⟩, ['T', 'L']⟩,
  ⟨.contact true true true, ['T', 'T'], ['L', 'L', 'T'], ⟨['T', 'T'], [⟨.probe, none, none, none, none, some true⟩, ⟨.backwall, some .solidFluid, some .reflection, some .under, some false, some false⟩, ⟨.grid, none, none, none, some true, none⟩], [.block, .block], ['T', 'T']⟩, ⟨['T', 'L', 'L'], [⟨.probe, none, none, none, none, some true⟩, ⟨.backwall, some .solidFluid, some .reflection, some .under, some false, some false⟩, ⟨.frontwall, none, none, none, some true, some true⟩, ⟨.grid, none, none, none, some true, none⟩], [.block, .block, .block], ['T', 'L', 'L']⟩, ['T', 'L']⟩,
  ⟨.contact true true true, ['T', 'T'], ['L', 'T', 'L'], ⟨['T', 'T'], [⟨.probe, none, none, none, none, some true⟩, ⟨.backwall, some .solidFluid, some .reflection, some .under, some false, some false⟩, ⟨.grid, none, none, none, some true, none⟩], [.block, .block], ['T', 'T']⟩, ⟨['L', 'T', 'L'], [⟨.probe, none, none, none, none, some true⟩, ⟨.backwall, some .solidFluid, some .reflection, some .under, some false, some false⟩, ⟨.frontwall, none, none, none, some true, some true⟩, ⟨.grid, none, none, none, some true, none⟩], [.block, .block, .block], ['L', 'T', 'L']⟩, ['T', 'L']⟩,
  ⟨.contact true true true, ['T', 'T'], ['L', 'T', 'T'], ⟨['T', 'T'], [⟨.probe, none, none, none, none, some true⟩, ⟨.backwall, some .solidFluid, some .reflection, some .under, some false, some false⟩, ⟨.grid, none, none, none, some true, none⟩], [.block, .block], ['T', 'T']⟩, ⟨['T', 'T', 'L'], [⟨.probe, none, none, none, none, some true⟩, ⟨.backwall, some .solidFluid, some .reflection, some .under, some false, some false⟩, ⟨.frontwall, none, none, none, some true, some true⟩, ⟨.grid, none, none, none, some true, none⟩], [.block, .block, .block], ['T', 'T', 'L']⟩, ['T', 'L']⟩,
  ⟨.contact true true true, ['T', 'T'], ['T', 'L', 'L'], ⟨['T', 'T'], [⟨.probe, none, none, none, none, some true⟩, ⟨.backwall, some .solidFluid, some .reflection, some .under, some false, some false⟩, ⟨.grid, none, none, none, some true, none⟩], [.block, .block], ['T', 'T']⟩, ⟨['L', 'L', 'T'], [⟨.probe, none, none, none, none, some true⟩, ⟨.backwall, some .solidFluid, some .reflection, some .under, some false, some false⟩, ⟨.frontwall, none, none, none, some true, some true⟩, ⟨.grid, none, none, none, some true, none⟩], [.block, .block, .block], ['L', 'L', 'T']⟩, ['T', 'T']⟩,
  ⟨.contact true true true, ['T', 'T'], ['T', 'L', 'T'], ⟨['T', 'T'], [⟨.probe, none, none, none, none, some true⟩, ⟨.backwall, some .solidFluid, some .reflection, some .under, some false, some false⟩, ⟨.grid, none, none, none, some true, none⟩], [.block, .block], ['T', 'T']⟩, ⟨['T', 'L', 'T'], [⟨.probe, none, none, none, none, some true⟩, ⟨.backwall, some .solidFluid, some .reflection, some .under, some false, some false⟩, ⟨.frontwall, none, none, none, some true, some true⟩, ⟨.grid, none, none, none, some true, none⟩], [.block, .block, .block], ['T', 'L', 'T']⟩, ['T', 'T']⟩,
  ⟨.contact true true true, ['T', 'T'], ['T', 'T', 'L'], ⟨['T', 'T'], [⟨.probe, none, none, none, none, some true⟩, ⟨.backwall, some .solidFluid, some .reflection, some .under, some false, some false⟩, ⟨.grid, none, none, none, some true, none⟩], [.block, .block], ['T', 'T']⟩, ⟨['L', 'T', 'T'], [⟨.probe, none, none, none, none, some true⟩, ⟨.backwall, some .solidFluid, some .reflection, some .under, some false, some false⟩, ⟨.frontwall, none, none, none, some true, some true⟩, ⟨.grid, none, none, none, some true, none⟩], [.block, .block, .block], ['L', 'T', 'T']⟩, ['T', 'T']⟩,
  ⟨.contact true true true, ['T', 'T'], ['T', 'T', 'T'], ⟨['T', 'T'], [⟨.probe, none, none, none, none, some true⟩, ⟨.backwall, some .solidFluid, some .reflection, some .under, some false, some false⟩, ⟨.grid, none, none, none, some true, none⟩], [.block, .block], ['T', 'T']⟩, ⟨['T', 'T', 'T'], [⟨.probe, none, none, none, none, some true⟩, ⟨.backwall, some .solidFluid, some .reflection, some .under, some false, some false⟩, ⟨.frontwall, none, none, none, some true, some true⟩, ⟨.grid, none, none, none, some true, none⟩], [.block, .block, .block], ['T', 'T', 'T']⟩, ['T', 'T']⟩,
  ⟨.contact true true true, ['L', 'L', 'L'], ['L', 'L', 'L'], ⟨['L', 'L', 'L'], [⟨.probe, none, none, none, none, some true⟩, ⟨.backwall, some .solidFluid, some .reflection, some .under, some false, some false⟩, ⟨.frontwall, none, none, none, some true, some true⟩, ⟨.grid, none, none, none, some true, none⟩], [.block, .block, .block], ['L', 'L', 'L']⟩, ⟨['L', 'L', 'L'], [⟨.probe, none, none, none, none, some true⟩, ⟨.backwall, some .solidFluid, some .reflection, some .under, some false, some false⟩, ⟨.frontwall, none, none, none, some true, some true⟩, ⟨.grid, none, none, none, some true, none⟩], [.block, .block, .block], ['L', 'L', 'L']⟩, ['L', 'L']⟩,
  ⟨.contact true true true, ['L', 'L', 'L'], ['L', 'L', 'T'], ⟨['L', 'L', 'L'], [⟨.probe, none, none, none, none, some true⟩, ⟨.backwall, some .solidFluid, some .reflection, some .under, some false, some false⟩, ⟨.frontwall, none, none, none, some true, some true⟩, ⟨.grid, none, none, none, some true, none⟩], [.block, .block, .block], ['L', 'L', 'L']⟩, ⟨['T', 'L', 'L'], [⟨.probe, none, none, none, none, some true⟩, ⟨.backwall, some .solidFluid, some .reflection, some .under, some false, some false⟩, ⟨.frontwall, none, none, none, some true, some true⟩, ⟨.grid, none, none, none, some true, none⟩], [.block, .block, .block], ['T', 'L', 'L']⟩, ['L', 'L']⟩,
  ⟨.contact true true true, ['L', 'L', 'L'], ['L', 'T', 'L'], ⟨['L', 'L', 'L'], [⟨.probe, none, none, none, none, some true⟩, ⟨.backwall, some .solidFluid, some .reflection, some .under, some false, some false⟩, ⟨.frontwall, none, none, none, some true, some true⟩, ⟨.grid, none, none, none, some true, none⟩], [.block, .block, .block], ['L', 'L', 'L']⟩, ⟨['L', 'T', 'L'], [⟨.probe, none, none, none, none, some true⟩, ⟨.backwall, some .solidFluid, some .reflection, some .under, some false, some false⟩, ⟨.frontwall, none, none, none, some true, some true⟩, ⟨.grid, none, none, none, some true, none⟩], [.block, .block, .block], ['L', 'T', 'L']⟩, ['L', 'L']⟩,
  ⟨.contact true true true, ['L', 'L', 'L'], ['L', 'T', 'T'], ⟨['L', 'L', 'L'], [⟨.probe, none, none, none, none, some true⟩, ⟨.backwall, some .solidFluid, some .reflection, some .under, some false, some false⟩, ⟨.frontwall, none, none, none, some true, some true⟩, ⟨.grid, none, none, none, some true, none⟩], [.block, .block, .block], ['L', 'L', 'L']⟩, ⟨['T', 'T', 'L'], [⟨.probe, none, none, none, none, some true⟩, ⟨.backwall, some .solidFluid, some .reflection, some .under, some false, some false⟩, ⟨.frontwall, none, none, none, some true, some true⟩, ⟨.grid, none, none, none, some true, none⟩], [.block, .block, .block], ['T', 'T', 'L']⟩, ['L', 'L']⟩,
  ⟨.contact true true true, ['L', 'L', 'L'], ['T', 'L', 'L'], ⟨['L', 'L', 'L'], [⟨.probe, none, none, none, none, some true⟩, ⟨.backwall, some .solidFluid, some .reflection, some .under, some false, some false⟩, ⟨.frontwall, none, none, none, some true, some true⟩, ⟨.grid, none, none, none, some true, none⟩], [.block, .block, .block], ['L', 'L', 'L']⟩, ⟨['L', 'L', 'T'], [⟨.probe, none, none, none, none, some true⟩, ⟨.backwall, some .solidFluid, some .reflection, some .under, some false, some false⟩, ⟨.frontwall, none, none, none, some true, some true⟩, ⟨.grid, none, none, none, some true, none⟩], [.block, .block, .block], ['L', 'L', 'T']⟩, ['L', 'T']⟩,
  ⟨.contact true true true, ['L', 'L', 'L'], ['T', 'L', 'T'], ⟨['L', 'L', 'L'], [⟨.probe, none, none, none, none, some true⟩, ⟨.backwall, some .solidFluid, some .reflection, some .under, some false, some false⟩, ⟨.frontwall, none, none, none, some true, some true⟩, ⟨.grid, none, none, none, some true, none⟩], [.block, .block, .block], ['L', 'L', 'L']⟩, ⟨['T', 'L', 'T'], [⟨.probe, none, none, none, none, some true⟩, ⟨.backwall, some .solidFluid, some .reflection, some .under, some false, some false⟩, ⟨.frontwall, none, none, none, some true, some true⟩, ⟨.grid, none, none, none, some true, none⟩], [.block, .block, .block], ['T', 'L', 'T']⟩, ['L', 'T']⟩,
  ⟨.contact true true true, ['L', 'L', 'L'], ['T', 'T', 'L'], ⟨['L', 'L', 'L'], [⟨.probe, none, none, none, none, some true⟩, ⟨.backwall, some .solidFluid, some .reflection, some .under, some false, some false⟩, ⟨.frontwall, none, none, none, some true, some true⟩, ⟨.grid, none, none, none, some true, none⟩], [.block, .block, .block], ['L', 'L', 'L']⟩, ⟨['L', 'T', 'T'], [⟨.probe, none, none, none, none, some true⟩, ⟨.backwall, some .solidFluid, some .reflection, some .under, some false, some false⟩, ⟨.frontwall, none, none, none, some true, some true⟩, ⟨.grid, none, none, none, some true, none⟩], [.block, .block, .block], ['L', 'T', 'T']⟩, ['L', 'T']⟩,
  ⟨.contact true true true, ['L', 'L', 'L'], ['T', 'T', 'T'], ⟨['L', 'L', 'L'], [⟨.probe, none, none, none, none, some true⟩, ⟨.backwall, some .solidFluid, some .reflection, some .under, some false, some false⟩, ⟨.frontwall, none, none, none, some true, some true⟩, ⟨.grid, none, none, none, some true, none⟩], [.block, .block, .block], ['L', 'L', 'L']⟩, ⟨['T', 'T', 'T'], [⟨.probe, none, none, none, none, some true⟩, ⟨.backwall, some .solidFluid, some .reflection, some .under, some false, some false⟩, ⟨.frontwall, none, none, none, some true, some true⟩, ⟨.grid, none, none, none, some true, none⟩], [.block, .block, .block], ['T', 'T', 'T']⟩, ['L', 'T']⟩,
  ⟨.contact true true true, ['L', 'L', 'T'], ['L', 'L', 'L'], ⟨['L', 'L', 'T'], [⟨.probe, none, none, none, none, some true⟩, ⟨.backwall, some .solidFluid, some .reflection, some .under, some false, some false⟩, ⟨.frontwall, none, none, none, some true, some true⟩, ⟨.grid, none, none, none, some true, none⟩], [.block, .block, .block], ['L', 'L', 'T']⟩, ⟨['L', 'L', 'L'], [⟨.probe, none, none, none, none, some true⟩, ⟨.backwall, some .solidFluid, some .reflection, some .under, some false, some false⟩, ⟨.frontwall, none, none, none, some true, some true⟩, ⟨.grid, none, none, none, some true, none⟩], [.block, .block, .block], ['L', 'L', 'L']⟩, ['T', 'L']⟩,
  ⟨.contact true true true, ['L', 'L', 'T'], ['L', 'L', 'T'], ⟨['L', 'L', 'T'], [⟨.probe, none, none, none, none, some true⟩, ⟨.backwall, some .solidFluid, some .reflection, some .under, some false, some false⟩, ⟨.frontwall, none, none, none, some true, some true⟩, ⟨.grid, none, none, none, some true, none⟩], [.block, .block, .block], ['L', 'L', 'T']⟩, ⟨['T', 'L', 'L'], [⟨.probe, none, none, none, none, some true⟩, ⟨.backwall, some .solidFluid, some .reflection, some .under, some false, some false⟩, ⟨.frontwall, none, none, none, some true, some true⟩, ⟨.grid, none, none, none, some true, none⟩], [.block, .block, .block], ['T', 'L', 'L']⟩, ['T', 'L']⟩,
  ⟨.contact true true true, ['L', 'L', 'T'], ['L', 'T', 'L'], ⟨['L', 'L', 'T'], [⟨.probe, none, none, none, none, some true⟩, ⟨.backwall, some .solidFluid, some .reflection, some .under, some false, some false⟩, ⟨.frontwall, none, none, none, some true, some true⟩, ⟨.grid, none, none, none, some true, none⟩], [.block, .block, .block], ['L', 'L', 'T']⟩, ⟨['L', 'T', 'L'], [⟨.probe, none, none, none, none, some true⟩, ⟨.backwall, some .solidFluid, some .reflection, some .under, some false, some false⟩, ⟨.frontwall, none, none, none, some true, some true⟩, ⟨.grid, none, none, none, some true, none⟩], [.block, .block, .block], ['L', 'T', 'L']⟩, ['T', 'L']⟩,
  ⟨.contact true true true, ['L', 'L', 'T'], ['L', 'T', 'T'], ⟨['L', 'L', 'T'], [⟨.probe, none, none, none, none, some true⟩, ⟨.backwall, some .solidFluid, some .reflection, some .under, some false, some false⟩, ⟨.frontwall, none, none, none, some true, some true⟩, ⟨.grid, none, none, none, some true, none⟩], [.block, .block, .block], ['L', 'L', 'T']⟩, ⟨['T', 'T', 'L'], [⟨.probe, none, none, none, none, some true⟩, ⟨.backwall, some .solidFluid, some .reflection, some .under, some false, some false⟩, ⟨.frontwall, none, none, none, some true, some true⟩, ⟨.grid, none, none, none, some true, none⟩], [.block, .block, .block], ['T', 'T', 'L']⟩, ['T', 'L']⟩,
  ⟨.contact true true true, ['L', 'L', 'T'], ['T', 'L', 'L'], ⟨['L', 'L', 'T'], [⟨.probe, none, none, none, none, some true⟩, ⟨.backwall, some .solidFluid, some .reflection, some .under, some false, some false⟩, ⟨.frontwall, none, none, none, some true, some true⟩, ⟨.grid, none, none, none, some true, none⟩], [.block, .block, .block], ['L', 'L', 'T']⟩, ⟨['L', 'L', 'T'], [⟨.probe, none, none, none, none, some true⟩, ⟨.backwall, some .solidFluid, some .reflection, some .under, some false, some false⟩, ⟨.frontwall, none, none, none, some true, some true⟩, ⟨.grid, none, none, none, some true, none⟩], [.block, .block, .block], ['L', 'L', 'T']⟩, ['T', 'T']⟩,
  ⟨.contact true true true, ['L', 'L', 'T'], ['T', 'L', 'T'], ⟨['L', 'L', 'T'], [⟨.probe, none, none, none, none, some true⟩, ⟨.backwall, some .solidFluid, some .reflection, some .under, some false, some false⟩, ⟨.frontwall, none, none, none, some true, some true⟩, ⟨.grid, none, none, none, some true, none⟩], [.block, .block, .block], ['L', 'L', 'T']⟩, ⟨['T', 'L', 'T'], [⟨.probe, none, none, none, none, some true⟩, ⟨.backwall, some .solidFluid, some .reflection, some .under, some false, some false⟩, ⟨.frontwall, none, none, none, some true, some true⟩, ⟨.grid, none, none, none, some true, none⟩], [.block, .block, .block], ['T', 'L', 'T']⟩, ['T', 'T']⟩,
  ⟨.contact true true true, ['L', 'L', 'T'], ['T', 'T', 'L'], ⟨['L', 'L', 'T'], [⟨.probe, none, none, none, none, some true⟩, ⟨.backwall, some .solidFluid, some .reflection, some .under, some false, some false⟩, ⟨.frontwall, none, none, none, some true, some true⟩, ⟨.grid, none, none, none, some true, none⟩], [.block, .block, .block], ['L', 'L', 'T']⟩, ⟨['L', 'T', 'T'], [⟨.probe, none, none, none, none, some true⟩, ⟨.backwall, some .solidFluid, some .reflection, some .under, some false, some false⟩, ⟨.frontwall, none, none, none, some true, some true⟩, ⟨.grid, none, none, none, some true, none⟩], [.block, .block, .block], ['L', 'T', 'T']⟩, ['T', 'T']⟩,
  ⟨.contact true true true, ['L', 'L', 'T'], ['T', 'T', 'T'], ⟨['L', 'L', 'T'], [⟨.probe, none, none, none, none, some true⟩, ⟨.backwall, some .solidFluid, some .reflection, some .under, some false, some false⟩, ⟨.frontwall, none, none, none, some true, some true⟩, ⟨.grid, none, none, none, some true, none⟩], [.block, .block, .block], ['L', 'L', 'T']⟩, ⟨['T', 'T', 'T'], [⟨.probe, none, none, none, none, some true⟩, ⟨.backwall, some .solidFluid, some .reflection, some .under, some false, some false⟩, ⟨.frontwall, none, none, none, some true, some true⟩, ⟨.grid, none, none, none, some true, none⟩], [.block, .block, .block], ['T', 'T', 'T']⟩, ['T', 'T']⟩,
  ⟨.contact true true true, ['L', 'T', 'L'], ['L', 'L', 'L'], ⟨['L', 'T', 'L'], [⟨.probe, none, none, none, none, some true⟩, ⟨.backwall, some .solidFluid, some .reflection, some .under, some false, some false⟩, ⟨.frontwall, none, none, none, some true, some true⟩, ⟨.grid, none, none, none, some true, none⟩], [.block, .block, .block], ['L', 'T', 'L']⟩, ⟨['L', 'L', 'L'], [⟨.probe, none, none, none, none, some true⟩, ⟨.backwall, some .solidFluid, some .reflection, some .under, some false, some false⟩, ⟨.frontwall, none, none, none, some true, some true⟩, ⟨.grid, none, none, none, some true, none⟩], [.block, .block, .block], ['L', 'L', 'L']⟩, ['L', 'L']⟩,
  ⟨.contact true true true, ['L', 'T', 'L'], ['L', 'L', 'T'], ⟨['L', 'T', 'L'], [⟨.probe, none, none, none, none, some true⟩, ⟨.backwall, some .solidFluid, some .reflection, some .under, some false, some false⟩, ⟨.frontwall, none, none, none, some true, some true⟩, ⟨.grid, none, none, none, some true, none⟩], [.block, .block, .block], ['L', 'T', 'L']⟩, ⟨['T', 'L', 'L'], [⟨.probe, none, none, none, none, some true⟩, ⟨.backwall, some .solidFluid, some .reflection, some .under, some false, some false⟩, ⟨.frontwall, none, none, none, some true, some true⟩, ⟨.grid, none, none, none, some true, none⟩], [.block, .block, .block], ['T', 'L', 'L']⟩, ['L', 'L']⟩,
  ⟨.contact true true true, ['L', 'T', 'L'], ['L', 'T', 'L'], ⟨['L', 'T', 'L'], [⟨.probe, none, none, none, none, some true⟩, ⟨.backwall, some .solidFluid, some .reflection, some .under, some false, some false⟩, ⟨.frontwall, none, none, none, some true, some true⟩, ⟨.grid, none, none, none, some true, none⟩], [.block, .block, .block], ['L', 'T', 'L']⟩, ⟨['L', 'T', 'L'], [⟨.probe, none, none, none, none, some true⟩, ⟨.backwall, some .solidFluid, some .reflection, some .under, some false, some false⟩, ⟨.frontwall, none, none, none, some true, some true⟩, ⟨.grid, none, none, none, some true, none⟩], [.block, .block, .block], ['L', 'T', 'L']⟩, ['L', 'L']⟩,
  ⟨.contact true true true, ['L', 'T', 'L'], ['L', 'T', 'T'], ⟨['L', 'T', 'L'], [⟨.probe, none, none, none, none, some true⟩, ⟨.backwall, some .solidFluid, some .reflection, some .under, some false, some false⟩, ⟨.frontwall, none, none, none, some true, some true⟩, ⟨.grid, none, none, none, some true, none⟩], [.block, .block, .block], ['L', 'T', 'L']⟩, ⟨['T', 'T', 'L'], [⟨.probe, none, none, none, none, some true⟩, ⟨.backwall, some .solidFluid, some .reflection, some .under, some false, some false⟩, ⟨.frontwall, none, none, none, some true, some true⟩, ⟨.grid, none, none, none, some true, none⟩], [.block, .block, .block], ['T', 'T', 'L']⟩, ['L', 'L']⟩,
  ⟨.contact true true true, ['L', 'T', 'L'], ['T', 'L', 'L'], ⟨['L', 'T', 'L'], [⟨.probe, none, none, none, none, some true⟩, ⟨.backwall, some .solidFluid, some .reflection, some .under, some false, some false⟩, ⟨.frontwall, none, none, none, some true, some true⟩, ⟨.grid, none, none, none, some true, none⟩], [.block, .block, .block], ['L', 'T', 'L']⟩, ⟨['L', 'L', 'T'], [⟨.probe, none, none, none, none, some true⟩, ⟨.backwall, some .solidFluid, some .reflection, some .under, some false, some false⟩, ⟨.frontwall, none, none, none, some true, some true⟩, ⟨.grid, none, none, none, some true, none⟩], [.block, .block, .block], ['L', 'L', 'T']⟩, ['L', 'T']⟩,
  ⟨.contact true true true, ['L', 'T', 'L'], ['T', 'L', 'T'], ⟨['L', 'T', 'L'], [⟨.probe, none, none, none, none, some true⟩, ⟨.backwall, some .solidFluid, some .reflection, some .under, some false, some false⟩, ⟨.frontwall, none, none, none, some true, some true⟩, ⟨.grid, none, none, none, some true, none⟩], [.block, .block, .block], ['L', 'T', 'L']⟩, ⟨['T', 'L', 'T'], [⟨.probe, none, none, none, none, some true⟩, ⟨.backwall, some .solidFluid, some .reflection, some .under, some false, some false⟩, ⟨.frontwall, none, none, none, some true, some true⟩, ⟨.grid, none, none, none, some true, none⟩], [.block, .block, .block], ['T', 'L', 'T']⟩, ['L', 'T']⟩,
  ⟨.contact true true true, ['L', 'T', 'L'], ['T', 'T', 'L'], ⟨['L', 'T', 'L'], [⟨.probe, none, none, none, none, some true⟩, ⟨.backwall, some .solidFluid, some .reflection, some .under, some false, some false⟩, ⟨.frontwall, none, none, none, some true, some true⟩, ⟨.grid, none, none, none, some true, none⟩], [.block, .block, .block], ['L', 'T', 'L']⟩, ⟨['L', 'T', 'T'], [⟨.probe, none, none, none, none, some true⟩, ⟨.backwall, some .solidFluid, some .reflection, some .under, some false, some false⟩, ⟨.frontwall, none, none, none, some true, some true⟩, ⟨.grid, none, none, none, some true, none⟩], [.block, .block, .block], ['L', 'T', 'T']⟩, ['L', 'T']⟩,
  ⟨.contact true true true, ['L', 'T', 'L'], ['T', 'T', 'T'], ⟨['L', 'T', 'L'], [⟨.probe, none, none, none, none, some true⟩, ⟨.backwall, some .solidFluid, some .reflection, some .under, some false, some false⟩, ⟨.frontwall, none, none, none, some true, some true⟩, ⟨.grid, none, none, none, some true, none⟩], [.block, .block, .block], ['L', 'T', 'L']⟩, ⟨['T', 'T', 'T'], [⟨.probe, none, none, none, none, some true⟩, ⟨.backwall, some .solidFluid, some .reflection, some .under, some false, some false⟩, ⟨.frontwall, none, none, none, some true, some true⟩, ⟨.grid, none, none, none, some true, none⟩], [.block, .block, .block], ['T', 'T', 'T']⟩, ['L', 'T']⟩,
  ⟨.contact true true true, ['L', 'T', 'T'], ['L', 'L', 'L'], ⟨['L', 'T', 'T'], [⟨.probe, none, none, none, none, some true⟩, ⟨.backwall, some .solidFluid, some .reflection, some .under, some false, some false⟩, ⟨.frontwall, none, none, none, some true, some true⟩, ⟨.grid, none, none, none, some true, none⟩], [.block, .block, .block], ['L', 'T', 'T']⟩, ⟨['L', 'L', 'L'], [⟨.probe, none, none, none, none, some true⟩, ⟨.backwall, some .solidFluid, some .reflection, some .under, some false, some false⟩, ⟨.frontwall, none, none, none, some true, some true⟩, ⟨.grid, none, none, none, some true, none⟩], [.block, .block, .block], ['L', 'L', 'L']⟩, ['T', 'L']⟩,
  ⟨.contact true true true, ['L', 'T', 'T'], ['L', 'L', 'T'], ⟨['L', 'T', 'T'], [⟨.probe, none, none, none, none, some true⟩, ⟨.backwall, some .solidFluid, some .reflection, some .under, some false, some false⟩, ⟨.frontwall, none, none, none, some true, some true⟩, ⟨.grid, none, none, none, some true, none⟩], [.block, .block, .block], ['L', 'T', 'T']⟩, ⟨['T', 'L', 'L'], [⟨.probe, none, none, none, none, some true⟩, ⟨.backwall, some .solidFluid, some .reflection, some .under, some false, some false⟩, ⟨.frontwall, none, none, none, some true, some true⟩, ⟨.grid, none, none, none, some true, none⟩], [.block, .block, .block], ['T', 'L', 'L']⟩, ['T', 'L']⟩,
  ⟨.contact true true true, ['L', 'T', 'T'], ['L', 'T', 'L'], ⟨['L', 'T', 'T'], [⟨.probe, none, none, none, none, some true⟩, ⟨.backwall, some .solidFluid, some .reflection, some .under, some false, some false⟩, ⟨.frontwall, none, none, none, some true, some true⟩, ⟨.grid, none, none, none, some true, none⟩], [.block, .block, .block], ['L', 'T', 'T']⟩, ⟨['L', 'T', 'L'], [⟨.probe, none, none, none, none, some true⟩, ⟨.backwall, some .solidFluid, some .reflection, some .under, some false, some false⟩, ⟨.frontwall, none, none, none, some true, some true⟩, ⟨.grid, none, none, none, some true, none⟩], [.block, .block, .block], ['L', 'T', 'L']⟩, ['T', 'L']⟩,
  ⟨.contact true true true, ['L', 'T', 'T'], ['L', 'T', 'T'], ⟨['L', 'T', 'T'], [⟨.probe, none, none, none, none, some true⟩, ⟨.backwall, some .solidFluid, some .reflection, some .under, some false, some false⟩, ⟨.frontwall, none, none, none, some true, some true⟩, ⟨.grid, none, none, none, some true, none⟩], [.block, .block, .block], ['L', 'T', 'T']⟩, ⟨['T', 'T', 'L'], [⟨.probe, none, none, none, none, some true⟩, ⟨.backwall, some .solidFluid, some .reflection, some .under, some false, some false⟩, ⟨.frontwall, none, none, none, some true, some true⟩, ⟨.grid, none, none, none, some true, none⟩], [.block, .block, .block], ['T', 'T', 'L']⟩, ['T', 'L']⟩,
  ⟨.contact true true true, ['L', 'T', 'T'], ['T', 'L', 'L'], ⟨['L', 'T', 'T'], [⟨.probe, none, none, none, none, some true⟩, ⟨.backwall, some .solidFluid, some .reflection, some .under, some false, some false⟩, ⟨.frontwall, none, none, none, some true, some true⟩, ⟨.grid, none, none, none, some true, none⟩], [.block, .block, .block], ['L', 'T', 'T']⟩, ⟨['L', 'L', 'T'], [⟨.probe, none, none, none, none, some true⟩, ⟨.backwall, some .solidFluid, some .reflection, some .under, some false, some false⟩, ⟨.frontwall, none, none, none, some true, some true⟩, ⟨.grid, none, none, none, some true, none⟩], [.block, .block, .block], ['L', 'L', 'T']⟩, ['T', 'T']⟩,
  ⟨.contact true true true, ['L', 'T', 'T'], ['T', 'L', 'T'], ⟨['L', 'T', 'T'], [⟨.probe, none, none, none, none, some true⟩, ⟨.backwall, some .solidFluid, some .reflection, some .under, some false, some false⟩, ⟨.frontwall, none, none, none, some true, some true⟩, ⟨.grid, none, none, none, some true, none⟩], [.block, .block, .block], ['L', 'T', 'T']⟩, ⟨['T', 'L', 'T'], [⟨.probe, none, none, none, none, some true⟩, ⟨.backwall, some .solidFluid, some .reflection, some .under, some false, some false⟩, ⟨.frontwall, none, none, none, some true, some true⟩, ⟨.grid, none, none, none, some true, none⟩], [.block, .block, .block], ['T', 'L', 'T']⟩, ['T', 'T']⟩,
  ⟨.contact true true true, ['L', 'T', 'T'], ['T', 'T', 'L'], ⟨['L', 'T', 'T'], [⟨.probe, none, none, none, none, some true⟩, ⟨.backwall, some .solidFluid, some .reflection, some .under, some false, some false⟩, ⟨.frontwall, none, none, none, some true, some true⟩, ⟨.grid, none, none, none, some true, none⟩], [.block, .block, .block], ['L', 'T', 'T']⟩, ⟨['L', 'T', 'T'], [⟨.probe, none, none, none, none, some true⟩, ⟨.backwall, some .solidFluid, some .reflection, some .under, some false, some false⟩, ⟨.frontwall, none, none, none, some true, some true⟩, ⟨.grid, none, none, none, some true, none⟩], [.block, .block, .block], ['L', 'T', 'T']⟩, ['T', 'T']⟩,
  ⟨.contact true true true, ['L', 'T', 'T'], ['T', 'T', 'T'], ⟨['L', 'T', 'T'], [⟨.probe, none, none, none, none, some true⟩, ⟨.backwall, some .solidFluid, some .reflection, some .under, some false, some false⟩, ⟨.frontwall, none, none, none, some true, some true⟩, ⟨.grid, none, none, none, some true, none⟩], [.block, .block, .block], ['L', 'T', 'T']⟩, ⟨['T', 'T', 'T'], [⟨.probe, none, none, none, none, some true⟩, ⟨.backwall, some .solidFluid, some .reflection, some .under, some false, some false⟩, ⟨.frontwall, none, none, none, some true, some true⟩, ⟨.grid, none, none, none, some true, none⟩], [.block, .block, .block], ['T', 'T', 'T']⟩, ['T', 'T']⟩
]

def table9 : List ViewEntry := [
  ⟨.contact true true true, ['T', 'L', 'L'], ['L', 'L', 'L'], ⟨['T', 'L', 'L'], [⟨.probe, none, none, none, none, some true⟩, ⟨.backwall, some .solidFluid, some .reflection, some .under, some false, some false⟩, ⟨.frontwall, none, none, none, some true, some true⟩, ⟨.grid, none, none, none, some true, none⟩], [.block, .block, .block], ['T', 'L', 'L']⟩, ⟨['L', 'L', 'L'], [⟨.probe, none, none, none, none, some true⟩, ⟨.backwall, some .solidFluid, some .reflection, some .under, some false, some false⟩, ⟨.frontwall, none, none, none, some true, some true⟩, ⟨.grid, none, none, none, some true, none⟩], [.block, .block, .block], ['L', 'L', 'L']⟩, ['L', 'L']⟩,
  ⟨.contact true true true, ['T', 'L', 'L'], ['L', 'L', 'T'], ⟨['T', 'L', 'L'], [⟨.probe, none, none, none, none, some true⟩, ⟨.backwall, some .solidFluid, some .reflection, some .under, some false, some false⟩, ⟨.frontwall, none, none, none, some true, some true⟩, ⟨.grid, none, none, none, some true, none⟩], [.block, .block, .block], ['T', 'L', 'L']⟩, ⟨['T', 'L', 'L'], [⟨.probe, none, none, none, none, some true⟩, ⟨.backwall, some .solidFluid, some .reflection, some .under, some false, some false⟩, ⟨.frontwall, none, none, none, some true, some true⟩, ⟨.grid, none, none, none, some true, none⟩], [.block, .block, .block], ['T', 'L', 'L']⟩, ['L', 'L']⟩,
  ⟨.contact true true true, ['T', 'L', 'L'], ['L', 'T', 'L'], ⟨['T', 'L', 'L'], [⟨.probe, none, none, none, none, some true⟩, ⟨.backwall, some .solidFluid, some .reflection, some .under, some false, some false⟩, ⟨.frontwall, none, none, none, some true, some true⟩, ⟨.grid, none, none, none, some true, none⟩], [.block, .block, .block], ['T', 'L', 'L']⟩, ⟨['L', 'T', 'L'], [⟨.probe, none, none, none, none, some true⟩, ⟨.backwall, some .solidFluid, some .reflection, some .under, some false, some false⟩, ⟨.frontwall, none, none, none, some true, some true⟩, ⟨.grid, none, none, none, some true, none⟩], [.block, .block, .block], ['L', 'T', 'L']⟩, ['L', 'L']⟩,
  ⟨.contact true true true, ['T', 'L', 'L'], ['L', 'T', 'T'], ⟨['T', 'L', 'L'], [⟨.probe, none, none, none, none, some true⟩, ⟨.backwall, some .solidFluid, some .reflection, some .under, some false, some false⟩, ⟨.frontwall, none, none, none, some true, some true⟩, ⟨.grid, none, none, none, some true, none⟩], [.block, .block, .block], ['T', 'L', 'L']⟩, ⟨['T', 'T', 'L'], [⟨.probe, none, none, none, none, some true⟩, ⟨.backwall, some .solidFluid, some .reflection, some .under, some false, some false⟩, ⟨.frontwall, none, none, none, some true, some true⟩, ⟨.grid, none, none, none, some true, none⟩], [.block, .block, .block], ['T', 'T', 'L']⟩, ['L', 'L']⟩,
  ⟨.contact true true true, ['T', 'L', 'L'], ['T', 'L', 'L'], ⟨['T', 'L', 'L'], [⟨.probe, none, none, none, none, some true⟩, ⟨.backwall, some .solidFluid, some .reflection, some .under, some false, some false⟩, ⟨.frontwall, none, none, none, some true, some true⟩, ⟨.grid, none, none, none, some true, none⟩], [.block, .block, .block], ['T', 'L', 'L']⟩, ⟨['L', 'L', 'T'], [⟨.probe, none, none, none, none, some true⟩, ⟨.backwall, some .solidFluid, some .reflection, some .under, some false, some false⟩, ⟨.frontwall, none, none, none, some true, some true⟩, ⟨.grid, none, none, none, some true, none⟩], [.block, .block, .block], ['L', 'L', 'T']⟩, ['L', 'T']⟩,
  ⟨.contact true true true, ['T', 'L', 'L'], ['T', 'L', 'T'], ⟨['T', 'L', 'L'], [⟨.probe, none, none, none, none, some true⟩, ⟨.backwall, some .solidFluid, some .reflection, some .under, some false, some false⟩, ⟨.frontwall, none, none, none, some true, some true⟩, ⟨.grid, none, none, none, some true, none⟩], [.block, .block, .block], ['T', 'L', 'L']⟩, ⟨['T', 'L', 'T'], [⟨.probe, none, none, none, none, some true⟩, ⟨.backwall, some .solidFluid, some .reflection, some .under, some false, some false⟩, ⟨.frontwall, none, none, none, some true, some true⟩, ⟨.grid, none, none, none, some true, none⟩], [.block, .block, .block], ['T', 'L', 'T']⟩, ['L', 'T']⟩,
  ⟨.contact true true true, ['T', 'L', 'L'], ['T', 'T', 'L'], ⟨['T', 'L', 'L'], [⟨.probe, none, none, none, none, some true⟩, ⟨.backwall, some .solidFluid, some .reflection, some .under, some false, some false⟩, ⟨.frontwall, none, none, none, some true, some true⟩, ⟨.grid, none, none, none, some true, none⟩], [.block, .block, .block], ['T', 'L', 'L']⟩, ⟨['L', 'T', 'T'], [⟨.probe, none, none, none, none, some true⟩, ⟨.backwall, some .solidFluid, some .reflection, some .under, some false, some false⟩, ⟨.frontwall, none, none, none, some true, some true⟩, ⟨.grid, none, none, none, some true, none⟩], [.block, .block, .block], ['L', 'T', 'T']⟩, ['L', 'T']⟩,
  ⟨.contact true true true, ['T', 'L', 'L'], ['T', 'T', 'T'], ⟨['T', 'L', 'L'], [⟨.probe, none, none, none, none, some true⟩, ⟨.backwall, some .solidFluid, some .reflection, some .under, some false, some false⟩, ⟨.frontwall, none, none, none, some true, some true⟩, ⟨.grid, none, none, none, some true, none⟩], [.block, .block, .block], ['T', 'L', 'L']⟩, ⟨['T', 'T', 'T'], [⟨.probe, none, none, none, none, some true⟩, ⟨.backwall, some .solidFluid, some .reflection, some .under, some false, some false⟩, ⟨.frontwall, none, none, none, some true, some true⟩, ⟨.grid, none, none, none, some true, none⟩], [.block, .block, .block], ['T', 'T', 'T']⟩, ['L', 'T']⟩,
  ⟨.contact true true true, ['T', 'L', 'T'], ['L', 'L', 'L'], ⟨['T', 'L', 'T'], [⟨.probe, none, none, none, none, some true⟩, ⟨.backwall, some .solidFluid, some .reflection, some .under, some false, some false⟩, ⟨.frontwall, none, none, none, some true, some true⟩, ⟨.grid, none, none, none, some true, none⟩], [.block, .block, .block], ['T', 'L', 'T']⟩, ⟨['L', 'L', 'L'], [⟨.probe, none, none, none, none, some true⟩, ⟨.backwall, some .solidFluid, some .reflection, some .under, some false, some false⟩, ⟨.frontwall, none, none, none, some true, some true⟩, ⟨.grid, none, none, none, some true, none⟩], [.block, .block, .block], ['L', 'L', 'L']⟩, ['T', 'L']⟩,
  ⟨.contact true true true, ['T', 'L', 'T'], ['L', 'L', 'T'], ⟨['T', 'L', 'T'], [⟨.probe, none, none, none, none, some true⟩, ⟨.backwall, some .solidFluid, some .reflection, some .under, some false, some false⟩, ⟨.frontwall, none, none, none, some true, some true⟩, ⟨.grid, none, none, none, some true, none⟩], [.block, .block, .block], ['T', 'L', 'T']⟩, ⟨['T', 'L', 'L'], [⟨.probe, none, none, none, none, some true⟩, ⟨.backwall, some .solidFluid, some .reflection, some .under, some false, some false⟩, ⟨.frontwall, none, none, none, some true, some true⟩, ⟨.grid, none, none, none, some true, none⟩], [.block, .block, .block], ['T', 'L', 'L']⟩, ['T', 'L']⟩,
  ⟨.contact true true true, ['T', 'L', 'T'], ['L', 'T', 'L'], ⟨['T', 'L', 'T'], [⟨.probe, none, none, none, none, some true⟩, ⟨.backwall, some .solidFluid, some .reflection, some .under, some false, some false⟩, ⟨.frontwall, none, none, none, some true, some true⟩, ⟨.grid, none, none, none, some true, none⟩], [.block, .block, .block], ['T', 'L', 'T']⟩, ⟨['L', 'T', 'L'], [⟨.probe, none, none, none, none, some true⟩, ⟨.backwall, some .solidFluid, some .reflection, some .under, some false, some false⟩, ⟨.frontwall, none, none, none, some true, some true⟩, ⟨.grid, none, none, none, some true, none⟩], [.block, .block, .block], ['L', 'T', 'L']⟩, ['T', 'L']⟩,
  ⟨.contact true true true, ['T', 'L', 'T'], ['L', 'T', 'T'], ⟨['T', 'L', 'T'], [⟨.probe, none, none, none, none, some true⟩, ⟨.backwall, some .solidFluid, some .reflection, some .under, some false, some false⟩, ⟨.frontwall, none, none, none, some true, some true⟩, ⟨.grid, none, none, none, some true, none⟩], [.block, .block, .block], ['T', 'L', 'T']⟩, ⟨['T', 'T', 'L'], [⟨.probe, none, none, none, none, some true⟩, ⟨.backwall, some .solidFluid, some .reflection, some .under, some false, some false⟩, ⟨.frontwall, none, none, none, some true, some true⟩, ⟨.grid, none, none, none, some true, none⟩], [.block, .block, .block], ['T', 'T', 'L']⟩, ['T', 'L']⟩,
  ⟨.contact true true true, ['T', 'L', 'T'], ['T', 'L', 'L'], ⟨['T', 'L', 'T'], [⟨.probe, none, none, none, none, some true⟩, ⟨.backwall, some .solidFluid, some .reflection, some .under, some false, some false⟩, ⟨.frontwall, none, none, none, some true, some true⟩, ⟨.grid, none, none, none, some true, none⟩], [.block, .block, .block], ['T', 'L', 'T']⟩, ⟨['L', 'L', 'T'], [⟨.probe, none, none, none, none, some true⟩, ⟨.backwall, some .solidFluid, some .reflection, some .under, some false, some false⟩, ⟨.frontwall, none, none, none, some true, some true⟩, ⟨.grid, none, none, none, some true, none⟩], [.block, .block, .block], ['L', 'L', 'T']⟩, ['T', 'T']⟩,
  ⟨.contact true true true, ['T', 'L', 'T'], ['T', 'L', 'T'], ⟨['T', 'L', 'T'], [⟨.probe, none, none, none, none, some true⟩, ⟨.backwall, some .solidFluid, some .reflection, some .under, some false, some false⟩, ⟨.frontwall, none, none, none, some true, some true⟩, ⟨.grid, none, none, none, some true, none⟩], [.block, .block, .block], ['T', 'L', 'T']⟩, ⟨['T', 'L', 'T'], [⟨.probe, none, none, none, none, some true⟩, ⟨.backwall, some .solidFluid, some .reflection, some .under, some false, some false⟩, ⟨.frontwall, none, none, none, some true, some true⟩, ⟨.grid, none, none, none, some true, none⟩], [.block, .block, .block], ['T', 'L', 'T']⟩, ['T', 'T']⟩,
  ⟨.contact true true true, ['T', 'L', 'T'], ['T', 'T', 'L'], ⟨['T', 'L', 'T'], [⟨.probe, none, none, none, none, some true⟩, ⟨.backwall, some .solidFluid, some .reflection, some .under, some false, some false⟩, ⟨.frontwall, none, none, none, some true, some true⟩, ⟨.grid, none, none, none, some true, none⟩], [.block, .block, .block], ['T', 'L', 'T']⟩, ⟨['L', 'T', 'T'], [⟨.probe, none, none, none, none, some true⟩, ⟨.backwall, some .solidFluid, some .reflection, some .under, some false, some false⟩, ⟨.frontwall, none, none, none, some true, some true⟩, ⟨.grid, none, none, none, some true, none⟩], [.block, .block, .block], ['L', 'T', 'T']⟩, ['T', 'T']⟩,
  ⟨.contact true true true, ['T', 'L', 'T'], ['T', 'T', 'T'], ⟨['T', 'L', 'T'], [⟨.probe, none, none, none, none, some true⟩, ⟨.backwall, some .solidFluid, some .reflection, some .under, some false, some false⟩, ⟨.frontwall, none, none, none, some true, some true⟩, ⟨.grid, none, none, none, some true, none⟩], [.block, .block, .block], ['T', 'L', 'T']⟩, ⟨['T', 'T', 'T'], [⟨.probe, none, none, none, none, some true⟩, ⟨.backwall, some .solidFluid, some .reflection, some .under, some false, some false⟩, ⟨.frontwall, none, none, none, some true, some true⟩, ⟨.grid, none, none, none, some true, none⟩], [.block, .block, .block], ['T', 'T', 'T']⟩, ['T', 'T']⟩,
  ⟨.contact true true true, ['T', 'T', 'L'], ['L', 'L', 'L'], ⟨['T', 'T', 'L'], [⟨.probe, none, none, none, none, some true⟩, ⟨.backwall, some .solidFluid, some .reflection, some .under, some false, some false⟩, ⟨.frontwall, none, none, none, some true, some true⟩, ⟨.grid, none, none, none, some true, none⟩], [.block, .block, .block], ['T', 'T', 'L']⟩, ⟨['L', 'L', 'L'], [⟨.probe, none, none, none, none, some true⟩, ⟨.backwall, some .solidFluid, some .reflection, some .under, some false, some false⟩, ⟨.frontwall, none, none, none, some true, some true⟩, ⟨.grid, none, none, none, some true, none⟩], [.block, .block, .block], ['L', 'L', 'L']⟩, ['L', 'L']⟩,
  ⟨.contact true true true, ['T', 'T', 'L'], ['L', 'L', 'T'], ⟨['T', 'T', 'L'], [⟨.probe, none, none, none, none, some true⟩, ⟨.backwall, some .solidFluid, some .reflection, some .under, some false, some false⟩, ⟨.frontwall, none, none, none, some true, some true⟩, ⟨.grid, none, none, none, some true, none⟩], [.block, .block, .block], ['T', 'T', 'L']⟩, ⟨['T', 'L', 'L'], [⟨.probe, none, none, none, none, some true⟩, ⟨.backwall, some .solidFluid, some .reflection, some .under, some false, some false⟩, ⟨.frontwall, none, none, none, some true, some true⟩, ⟨.grid, none, none, none, some true, none⟩], [.block, .block, .block], ['T', 'L', 'L']⟩, ['L', 'L']⟩,
  ⟨.contact true true true, ['T', 'T', 'L'], ['L', 'T', 'L'], ⟨['T', 'T', 'L'], [⟨.probe, none, none, none, none, some true⟩, ⟨.backwall, some .solidFluid, some .reflection, some .under, some false, some false⟩, ⟨.frontwall, none, none, none, some true, some true⟩, ⟨.grid, none, none, none, some true, none⟩], [.block, .block, .block], ['T', 'T', 'L']⟩, ⟨['L', 'T', 'L'], [⟨.probe, none, none, none, none, some true⟩, ⟨.backwall, some .solidFluid, some .reflection, some .under, some false, some false⟩, ⟨.frontwall, none, none, none, some true, some true⟩, ⟨.grid, none, none, none, some true, none⟩], [.block, .block, .block], ['L', 'T', 'L']⟩, ['L', 'L']⟩,
  ⟨.contact true true true, ['T', 'T', 'L'], ['L', 'T', 'T'], ⟨['T', 'T', 'L'], [⟨.probe, none, none, none, none, some true⟩, ⟨.backwall, some .solidFluid, some .reflection, some .under, some false, some false⟩, ⟨.frontwall, none, none, none, some true, some true⟩, ⟨.grid, none, none, none, some true, none⟩], [.block, .block, .block], ['T', 'T', 'L']⟩, ⟨['T', 'T', 'L'], [⟨.probe, none, none, none, none, some true⟩, ⟨.backwall, some .solidFluid, some .reflection, some .under, some false, some false⟩, ⟨.frontwall, none, none, none, some true, some true⟩, ⟨.grid, none, none, none, some true, none⟩], [.block, .block, .block], ['T', 'T', 'L']⟩, ['L', 'L']⟩,
  ⟨.contact true true true, ['T', 'T', 'L'], ['T', 'L', 'L'], ⟨['T', 'T', 'L'], [⟨.probe, none, none, none, none, some true⟩, ⟨.backwall, some .solidFluid, some .reflection, some .under, some false, some false⟩, ⟨.frontwall, none, none, none, some true, some true⟩, ⟨.grid, none, none, none, some true, none⟩], [.block, .block, .block], ['T', 'T', 'L']⟩, ⟨['L', 'L', 'T'], [⟨.probe, none, none, none, none, some true⟩, ⟨.backwall, some .solidFluid, some .reflection, some .under, some false, some false⟩, ⟨.frontwall, none, none, none, some true, some true⟩, ⟨.grid, none, none, none, some true, none⟩], [.block, .block, .block], ['L', 'L', 'T']⟩, ['L', 'T']⟩,
  ⟨.contact true true true, ['T', 'T', 'L'], ['T', 'L', 'T'], ⟨['T', 'T', 'L'], [⟨.probe, none, none, none, none, some true⟩, ⟨.backwall, some .solidFluid, some .reflection, some .under, some false, some false⟩, ⟨.frontwall, none, none, none, some true, some true⟩, ⟨.grid, none, none, none, some true, none⟩], [.block, .block, .block], ['T', 'T', 'L']⟩, ⟨['T', 'L', 'T'], [⟨.probe, none, none, none, none, some true⟩, ⟨.backwall, some .solidFluid, some .reflection, some .under, some false, some false⟩, ⟨.frontwall, none, none, none, some true, some true⟩, ⟨.grid, none, none, none, some true, none⟩], [.block, .block, .block], ['T', 'L', 'T']⟩, ['L', 'T']⟩,
  ⟨.contact true true true, ['T', 'T', 'L'], ['T', 'T', 'L'], ⟨['T', 'T', 'L'], [⟨.probe, none, none, none, none, some true⟩, ⟨.backwall, some .solidFluid, some .reflection, some .under, some false, some false⟩, ⟨.frontwall, none, none, none, some true, some true⟩, ⟨.grid, none, none, none, some true, none⟩], [.block, .block, .block], ['T', 'T', 'L']⟩, ⟨['L', 'T', 'T'], [⟨.probe, none, none, none, none, some true⟩, ⟨.backwall, some .solidFluid, some .reflection, some .under, some false, some false⟩, ⟨.frontwall, none, none, none, some true, some true⟩, ⟨.grid, none, none, none, some true, none⟩], [.block, .block, .block], ['L', 'T', 'T']⟩, ['L', 'T']⟩,
  ⟨.contact true true true, ['T', 'T', 'L'], ['T', 'T', 'T'], ⟨['T', 'T', 'L'], [⟨.probe, none, none, none, none, some true⟩, ⟨.backwall, some .solidFluid, some .reflection, some .under, some false, some false⟩, ⟨.frontwall, none, none, none, some true, some true⟩, ⟨.grid, none, none, none, some true, none⟩], [.block, .block, .block], ['T', 'T', 'L']⟩, ⟨['T', 'T', 'T'], [⟨.probe, none, none, none, none, some true⟩, ⟨.backwall, some .solidFluid, some .reflection, some .under, some false, some false⟩, ⟨.frontwall, none, none, none, some true, some true⟩, ⟨.grid, none, none, none, some true, none⟩], [.block, .block, .block], ['T', 'T', 'T']⟩, ['L', 'T']⟩,
  ⟨.contact true true true, ['T', 'T', 'T'], ['L', 'L', 'L'], ⟨['T', 'T', 'T'], [⟨.probe, none, none, none, none, some true⟩, ⟨.backwall, some .solidFluid, some .reflection, some .under, some false, some false⟩, ⟨.frontwall, none, none, none, some true, some true⟩, ⟨.grid, none, none, none, some true, none⟩], [.block, .block, .block], ['T', 'T', 'T']⟩, ⟨['L', 'L', 'L'], [⟨.probe, none, none, none, none, some true⟩, ⟨.backwall, some .solidFluid, some .reflection, some .under, some false, some false⟩, ⟨.frontwall, none, none, none, some true, some true⟩, ⟨.grid, none, none, none, some true, none⟩], [.block, .block, .block], ['L', 'L', 'L']⟩, ['T', 'L']⟩,
  ⟨.contact true true true, ['T', 'T', 'T'], ['L', 'L', 'T'], ⟨['T', 'T', 'T'], [⟨.probe, none, none, none, none, some true⟩, ⟨.backwall, some .solidFluid, some .reflection, some .under, some false, some false⟩, ⟨.frontwall, none, none, none, some true, some true⟩, ⟨.grid, none, none, none, some true, none⟩], [.block, .block, .block], ['T', 'T', 'T']⟩, ⟨['T', 'L', 'L'], [⟨.probe, none, none, none, none, some true⟩, ⟨.backwall, some .solidFluid, some .reflection, some .under, some false, some false⟩, ⟨.frontwall, none, none, none, some true, some true⟩, ⟨.grid, none, none, none, some true, none⟩], [.block, .block, .block], ['T', 'L', 'L']⟩, ['T', 'L']⟩,
  ⟨.contact true true true, ['T', 'T', 'T'], ['L', 'T', 'L'], ⟨['T', 'T', 'T'], [⟨.probe, none, none, none, none, some true⟩, ⟨.backwall, some .solidFluid, some .reflection, some .under, some false, some false⟩, ⟨.frontwall, none, none, none, some true, some true⟩, ⟨.grid, none, none, none, some true, none⟩], [.block, .block, .block], ['T', 'T', 'T']⟩, ⟨['L', 'T', 'L'], [⟨.probe, none, none, none, none, some true⟩, ⟨.backwall, some .solidFluid, some .reflection, some .under, some false, some false⟩, ⟨.frontwall, none, none, none, some true, some true⟩, ⟨.grid, none, none, none, some true, none⟩], [.block, .block, .block], ['L', 'T', 'L']⟩, ['T', 'L']⟩,
  ⟨.contact true true true, ['T', 'T', 'T'], ['L', 'T', 'T'], ⟨['T', 'T', 'T'], [⟨.probe, none, none, none, none, some true⟩, ⟨.backwall, some .solidFluid, some .reflection, some .under, some false, some false⟩, ⟨.frontwall, none, none, none, some true, some true⟩, ⟨.grid, none, none, none, some true, none⟩], [.block, .block, .block], ['T', 'T', 'T']⟩, ⟨['T', 'T', 'L'], [⟨.probe, none, none, none, none, some true⟩, ⟨.backwall, some .solidFluid, some .reflection, some .under, some false, some false⟩, ⟨.frontwall, none, none, none, some true, some true⟩, ⟨.grid, none, none, none, some true, none⟩], [.block, .block, .block], ['T', 'T', 'L']⟩, ['T', 'L']⟩,
  ⟨.contact true true true, ['T', 'T', 'T'], ['T', 'L', 'L'], ⟨['T', 'T', 'T'], [⟨.probe, none, none, none, none, some true⟩, ⟨.backwall, some .solidFluid, some .reflection, some .under, some false, some false⟩, ⟨.frontwall, none, none, none, some true, some true⟩, ⟨.grid, none, none, none, some true, none⟩], [.block, .block, .block], ['T', 'T', 'T']⟩, ⟨['L', 'L', 'T'], [⟨.probe, none, none, none, none, some true⟩, ⟨.backwall, some .solidFluid, some .reflection, some .under, some false, some false⟩, ⟨.frontwall, none, none, none, some true, some true⟩, ⟨.grid, none, none, none, some true, none⟩], [.block, .block, .block], ['L', 'L', 'T']⟩, ['T', 'T']⟩,
  ⟨.contact true true true, ['T', 'T', 'T'], ['T', 'L', 'T'], ⟨['T', 'T', 'T'], [⟨.probe, none, none, none, none, some true⟩, ⟨.backwall, some .solidFluid, some .reflection, some .under, some false, some false⟩, ⟨.frontwall, none, none, none, some true, some true⟩, ⟨.grid, none, none, none, some true, none⟩], [.block, .block, .block], ['T', 'T', 'T']⟩, ⟨['T', 'L', 'T'], [⟨.probe, none, none, none, none, some true⟩, ⟨.backwall, some .solidFluid, some .reflection, some .under, some false, some false⟩, ⟨.frontwall, none, none, none, some true, some true⟩, ⟨.grid, none, none, none, some true, none⟩], [.block, .block, .block], ['T', 'L', 'T']⟩, ['T', 'T']⟩,
  ⟨.contact true true true, ['T', 'T', 'T'], ['T', 'T', 'L'], ⟨['T', 'T', 'T'], [⟨.probe, none, none, none, none, some true⟩, ⟨.backwall, some .solidFluid, some .reflection, some .under, some false, some false⟩, ⟨.frontwall, none, none, none, some true, some true⟩, ⟨.grid, none, none, none, some true, none⟩], [.block, .block, .block], ['T', 'T', 'T']⟩, ⟨['L', 'T', 'T'], [⟨.probe, none, none, none, none, some true⟩, ⟨.backwall, some .solidFluid, some .reflection, some .under, some false, some false⟩, ⟨.frontwall, none, none, none, some true, some true⟩, ⟨.grid, none, none, none, some true, none⟩], [.block, .block, .block], ['L', 'T', 'T']⟩, ['T', 'T']⟩,
  ⟨.contact true true true, ['T', 'T', 'T'], ['T', 'T', 'T'], ⟨['T', 'T', 'T'], [⟨.probe, none, none, none, none, some true⟩, ⟨.backwall, some .solidFluid, some .reflection, some .under, some false, some false⟩, ⟨.frontwall, none, none, none, some true, some true⟩, ⟨.grid, none, none, none, some true, none⟩], [.block, .block, .block], ['T', 'T', 'T']⟩, ⟨['T', 'T', 'T'], [⟨.probe, none, none, none, none, some true⟩, ⟨.backwall, some .solidFluid, some .reflection, some .under, some false, some false⟩, ⟨.frontwall, none, none, none, some true, some true⟩, ⟨.grid, none, none, none, some true, none⟩], [.block, .block, .block], ['T', 'T', 'T']⟩, ['T', 'T']⟩,
  ⟨.contact true true false, ['L'], ['L'], ⟨['L'], [⟨.probe, none, none, none, none, some true⟩, ⟨.grid, none, none, none, some true, none⟩], [.block], ['L']⟩, ⟨['L'], [⟨.probe, none, none, none, none, some true⟩, ⟨.grid, none, none, none, some true, none⟩], [.block], ['L']⟩, ['L', 'L']⟩,
  ⟨.contact true true false, ['L'], ['T'], ⟨['L'], [⟨.probe, none, none, none, none, some true⟩, ⟨.grid, none, none, none, some true, none⟩], [.block], ['L']⟩, ⟨['T'], [⟨.probe, none, none, none, none, some true⟩, ⟨.grid, none, none, none, some true, none⟩], [.block], ['T']⟩, ['L', 'T']⟩,
  ⟨.contact true true false, ['T'], ['L'], ⟨['T'], [⟨.probe, none, none, none, none, some true⟩, ⟨.grid, none, none, none, some true, none⟩], [.block], ['T']⟩, ⟨['L'], [⟨.probe, none, none, none, none, some true⟩, ⟨.grid, none, none, none, some true, none⟩], [.block], ['L']⟩, ['T', 'L']⟩,
  ⟨.contact true true false, ['T'], ['T'], ⟨['T'], [⟨.probe, none, none, none, none, some true⟩, ⟨.grid, none, none, none, some true, none⟩], [.block], ['T']⟩, ⟨['T'], [⟨.probe, none, none, none, none, some true⟩, ⟨.grid, none, none, none, some true, none⟩], [.block], ['T']⟩, ['T', 'T']⟩,
  ⟨.contact true true false, ['L', 'L'], ['L'], ⟨['L', 'L'], [⟨.probe, none, none, none, none, some true⟩, ⟨.backwall, none, none, none, some false, some false⟩, ⟨.grid, none, none, none, some true, none⟩], [.block, .block], ['L', 'L']⟩, ⟨['L'], [⟨.probe, none, none, none, none, some true⟩, ⟨.grid, none, none, none, some true, none⟩], [.block], ['L']⟩, ['L', 'L']⟩,
  ⟨.contact true true false, ['L', 'L'], ['T'], ⟨['L', 'L'], [⟨.probe, none, none, none, none, some true⟩, ⟨.backwall, none, none, none, some false, some false⟩, ⟨.grid, none, none, none, some true, none⟩], [.block, .block], ['L', 'L']⟩, ⟨['T'], [⟨.probe, none, none, none, none, some true⟩, ⟨.grid, none, none, none, some true, none⟩], [.block], ['T']⟩, ['L', 'T']⟩,
  ⟨.contact true true false, ['L', 'T'], ['L'], ⟨['L', 'T'], [⟨.probe, none, none, none, none, some true⟩, ⟨.backwall, none, none, none, some false, some false⟩, ⟨.grid, none, none, none, some true, none⟩], [.block, .block], ['L', 'T']⟩, ⟨['L'], [⟨.probe, none, none, none, none, some true⟩, ⟨.grid, none, none, none, some true, none⟩], [.block], ['L']⟩, ['T', 'L']⟩,
  ⟨.contact true true false, ['L', 'T'], ['T'], ⟨['L', 'T'], [⟨.probe, none, none, none, none, some true⟩, ⟨.backwall, none, none, none, some false, some false⟩, ⟨.grid, none, none, none, some true, none⟩], [.block, .block], ['L', 'T']⟩, ⟨['T'], [⟨.probe, none, none, none, none, some true⟩, ⟨.grid, none, none, none, some true, none⟩], [.block], ['T']⟩, ['T', 'T']⟩
]

def table10 : List ViewEntry := [
  ⟨.contact true true false, ['T', 'L'], ['L'], ⟨['T', 'L'], [⟨.probe, none, none, none, none, some true⟩, ⟨.backwall, none, none, none, some false, some false⟩, ⟨.grid, none, none, none, some true, none⟩], [.block, .block], ['T', 'L']⟩, ⟨['L'], [⟨.probe, none, none, none, none, some true⟩, ⟨.grid, none, none, none, some true, none⟩], [.block], ['L']⟩, ['L', 'L']⟩,
  ⟨.contact true true false, ['T', 'L'], ['T'], ⟨['T', 'L'], [⟨.probe, none, none, none, none, some true⟩, ⟨.backwall, none, none, none, some false, some false⟩, ⟨.grid, none, none, none, some true, none⟩], [.block, .block], ['T', 'L']⟩, ⟨['T'], [⟨.probe, none, none, none, none, some true⟩, ⟨.grid, none, none, none, some true, none⟩], [.block], ['T']⟩, ['L', 'T']⟩,
  ⟨.contact true true false, ['T', 'T'], ['L'], ⟨['T', 'T'], [⟨.probe, none, none, none, none, some true⟩, ⟨.backwall, none, none, none, some false, some false⟩, ⟨.grid, none, none, none, some true, none⟩], [.block, .block], ['T', 'T']⟩, ⟨['L'], [⟨.probe, none, none, none, none, some true⟩, ⟨.grid, none, none, none, some true, none⟩], [.block], ['L']⟩, ['T', 'L']⟩,
  ⟨.contact true true false, ['T', 'T'], ['T'], ⟨['T', 'T'], [⟨.probe, none, none, none, none, some true⟩, ⟨.backwall, none, none, none, some false, some false⟩, ⟨.grid, none, none, none, some true, none⟩], [.block, .block], ['T', 'T']⟩, ⟨['T'], [⟨.probe, none, none, none, none, some true⟩, ⟨.grid, none, none, none, some true, none⟩], [.block], ['T']⟩, ['T', 'T']⟩,
  ⟨.contact true true false, ['L'], ['L', 'L'], ⟨['L'], [⟨.probe, none, none, none, none, some true⟩, ⟨.grid, none, none, none, some true, none⟩], [.block], ['L']⟩, ⟨['L', 'L'], [⟨.probe, none, none, none, none, some true⟩, ⟨.backwall, none, none, none, some false, some false⟩, ⟨.grid, none, none, none, some true, none⟩], [.block, .block], ['L', 'L']⟩, ['L', 'L']⟩,
  ⟨.contact true true false, ['L'], ['L', 'T'], ⟨['L'], [⟨.probe, none, none, none, none, some true⟩, ⟨.grid, none, none, none, some true, none⟩], [.block], ['L']⟩, ⟨['T', 'L'], [⟨.probe, none, none, none, none, some true⟩, ⟨.backwall, none, none, none, some false, some false⟩, ⟨.grid, none, none, none, some true, none⟩], [.block, .block], ['T', 'L']⟩, ['L', 'L']⟩,
  ⟨.contact true true false, ['L'], ['T', 'L'], ⟨['L'], [⟨.probe, none, none, none, none, some true⟩, ⟨.grid, none, none, none, some true, none⟩], [.block], ['L']⟩, ⟨['L', 'T'], [⟨.probe, none, none, none, none, some true⟩, ⟨.backwall, none, none, none, some false, some false⟩, ⟨.grid, none, none, none, some true, none⟩], [.block, .block], ['L', 'T']⟩, ['L', 'T']⟩,
  ⟨.contact true true false, ['L'], ['T', 'T'], ⟨['L'], [⟨.probe, none, none, none, none, some true⟩, ⟨.grid, none, none, none, some true, none⟩], [.block], ['L']⟩, ⟨['T', 'T'], [⟨.probe, none, none, none, none, some true⟩, ⟨.backwall, none, none, none, some false, some false⟩, ⟨.grid, none, none, none, some true, none⟩], [.block, .block], ['T', 'T']⟩, ['L', 'T']⟩,
  ⟨.contact true true false, ['T'], ['L', 'L'], ⟨['T'], [⟨.probe, none, none, none, none, some true⟩, ⟨.grid, none, none, none, some true, none⟩], [.block], ['T']⟩, ⟨['L', 'L'], [⟨.probe, none, none, none, none, some true⟩, ⟨.backwall, none, none, none, some false, some false⟩, ⟨.grid, none, none, none, some true, none⟩], [.block, .block], ['L', 'L']⟩, ['T', 'L']⟩,
  ⟨.contact true true false, ['T'], ['L', 'T'], ⟨['T'], [⟨.probe, none, none, none, none, some true⟩, ⟨.grid, none, none, none, some true, none⟩], [.block], ['T']⟩, ⟨['T', 'L'], [⟨.probe, none, none, none, none, some true⟩, ⟨.backwall, none, none, none, some false, some false⟩, ⟨.grid, none, none, none, some true, none⟩], [.block, .block], ['T', 'L']⟩, ['T', 'L']⟩,
  ⟨.contact true true false, ['T'], ['T', 'L'], ⟨['T'], [⟨.probe, none, none, none, none, some true⟩, ⟨.grid, none, none, none, some true, none⟩], [.block], ['T']⟩, ⟨['L', 'T'], [⟨.probe, none, none, none, none, some true⟩, ⟨.backwall, none, none, none, some false, some false⟩, ⟨.grid, none, none, none, some true, none⟩], [.block, .block], ['L', 'T']⟩, ['T', 'T']⟩,
  ⟨.contact true true false, ['T'], ['T', 'T'], ⟨['T'], [⟨.probe, none, none, none, none, some true⟩, ⟨.grid, none, none, none, some true, none⟩], [.block], ['T']⟩, ⟨['T', 'T'], [⟨.probe, none, none, none, none, some true⟩, ⟨.backwall, none, none, none, some false, some false⟩, ⟨.grid, none, none, none, some true, none⟩], [.block, .block], ['T', 'T']⟩, ['T', 'T']⟩,
  ⟨.contact true true false, ['L', 'L'], ['L', 'L'], ⟨['L', 'L'], [⟨.probe, none, none, none, none, some true⟩, ⟨.backwall, none, none, none, some false, some false⟩, ⟨.grid, none, none, none, some true, none⟩], [.block, .block], ['L', 'L']⟩, ⟨['L', 'L'], [⟨.probe, none, none, none, none, some true⟩, ⟨.backwall, none, none, none, some false, some false⟩, ⟨.grid, none, none, none, some true, none⟩], [.block, .block], ['L', 'L']⟩, ['L', 'L']⟩,
  ⟨.contact true true false, ['L', 'L'], ['L', 'T'], ⟨['L', 'L'], [⟨.probe, none, none, none, none, some true⟩, ⟨.backwall, none, none, none, some false, some false⟩, ⟨.grid, none, none, none, some true, none⟩], [.block, .block], ['L', 'L']⟩, ⟨['T', 'L'], [⟨.probe, none, none, none, none, some true⟩, ⟨.backwall, none, none, none, some false, some false⟩, ⟨.grid, none, none, none, some true, none⟩], [.block, .block], ['T', 'L']⟩, ['L', 'L']⟩,
  ⟨.contact true true false, ['L', 'L'], ['T', 'L'], ⟨['L', 'L'], [⟨.probe, none, none, none, none, some true⟩, ⟨.backwall, none, none, none, some false, some false⟩, ⟨.grid, none, none, none, some true, none⟩], [.block, .block], ['L', 'L']⟩, ⟨['L', 'T'], [⟨.probe, none, none, none, none, some true⟩, ⟨.backwall, none, none, none, some false, some false⟩, ⟨.grid, none, none, none, some true, none⟩], [.block, .block], ['L', 'T']⟩, ['L', 'T']⟩,
  ⟨.contact true true false, ['L', 'L'], ['T', 'T'], ⟨['L', 'L'], [⟨.probe, none, none, none, none, some true⟩, ⟨.backwall, none, none, none, some false, some false⟩, ⟨.grid, none, none, none, some true, none⟩], [.block, .block], ['L', 'L']⟩, ⟨['T', 'T'], [⟨.probe, none, none, none, none, some true⟩, ⟨.backwall, none, none, none, some false, some false⟩, ⟨.grid, none, none, none, some true, none⟩], [.block, .block], ['T', 'T']⟩, ['L', 'T']⟩,
  ⟨.contact true true false, ['L', 'T'], ['L', 'L'], ⟨['L', 'T'], [⟨.probe, none, none, none, none, some true⟩, ⟨.backwall, none, none, none, some false, some false⟩, ⟨.grid, none, none, none, some true, none⟩], [.block, .block], ['L', 'T']⟩, ⟨['L', 'L'], [⟨.probe, none, none, none, none, some true⟩, ⟨.backwall, none, none, none, some false, some false⟩, ⟨.grid, none, none, none, some true, none⟩], [.block, .block], ['L', 'L']⟩, ['T', 'L']⟩,
  ⟨.contact true true false, ['L', 'T'], ['L', 'T'], ⟨['L', 'T'], [⟨.probe, none, none, none, none, some true⟩, ⟨.backwall, none, none, none, some false, some false⟩, ⟨.grid, none, none, none, some true, none⟩], [.block, .block], ['L', 'T']⟩, ⟨['T', 'L'], [⟨.probe, none, none, none, none, some true⟩, ⟨.backwall, none, none, none, some false, some false⟩, ⟨.grid, none, none, none, some true, none⟩], [.block, .block], ['T', 'L']⟩, ['T', 'L']⟩,
  ⟨.contact true true false, ['L', 'T'], ['T', 'L'], ⟨['L', 'T'], [⟨.probe, none, none, none, none, some true⟩, ⟨.backwall, none, none, none, some false, some false⟩, ⟨.grid, none, none, none, some true, none⟩], [.block, .block], ['L', 'T']⟩, ⟨['L', 'T'], [⟨.probe, none, none, none, none, some true⟩, ⟨.backwall, none, none, none, some false, some false⟩, ⟨.grid, none, none, none, some true, none⟩], [.block, .block], ['L', 'T']⟩, ['T', 'T']⟩,
  ⟨.contact true true false, ['L', 'T'], ['T', 'T'], ⟨['L', 'T'], [⟨.probe, none, none, none, none, some true⟩, ⟨.backwall, none, none, none, some false, some false⟩, ⟨.grid, none, none, none, some true, none⟩], [.block, .block], ['L', 'T']⟩, ⟨['T', 'T'], [⟨.probe, none, none, none, none, some true⟩, ⟨.backwall, none, none, none, some false, some false⟩, ⟨.grid, none, none, none, some true, none⟩], [.block, .block], ['T', 'T']⟩, ['T', 'T']⟩,
  ⟨.contact true true false, ['T', 'L'], ['L', 'L'], ⟨['T', 'L'], [⟨.probe, none, none, none, none, some true⟩, ⟨.backwall, none, none, none, some false, some false⟩, ⟨.grid, none, none, none, some true, none⟩], [.block, .block], ['T', 'L']⟩, ⟨['L', 'L'], [⟨.probe, none, none, none, none, some true⟩, ⟨.backwall, none, none, none, some false, some false⟩, ⟨.grid, none, none, none, some true, none⟩], [.block, .block], ['L', 'L']⟩, ['L', 'L']⟩,
  ⟨.contact true true false, ['T', 'L'], ['L', 'T'], ⟨['T', 'L'], [⟨.probe, none, none, none, none, some true⟩, ⟨.backwall, none, none, none, some false, some false⟩, ⟨.grid, none, none, none, some true, none⟩], [.block, .block], ['T', 'L']⟩, ⟨['T', 'L'], [⟨.probe, none, none, none, none, some true⟩, ⟨.backwall, none, none, none, some false, some false⟩, ⟨.grid, none, none, none, some true, none⟩], [.block, .block], ['T', 'L']⟩, ['L', 'L']⟩,
  ⟨.contact true true false, ['T', 'L'], ['T', 'L'], ⟨['T', 'L'], [⟨.probe, none, none, none, none, some true⟩, ⟨.backwall, none, none, none, some false, some false⟩, ⟨.grid, none, none, none, some true, none⟩], [.block, .block], ['T', 'L']⟩, ⟨['L', 'T'], [⟨.probe, none, none, none, none, some true⟩, ⟨.backwall, none, none, none, some false, some false⟩, ⟨.grid, none, none, none, some true, none⟩], [.block, .block], ['L', 'T']⟩, ['L', 'T']⟩,
  ⟨.contact true true false, ['T', 'L'], ['T', 'T'], ⟨['T', 'L'], [⟨.probe, none, none, none, none, some true⟩, ⟨.backwall, none, none, none, some false, some false⟩, ⟨.grid, none, none, none, some true, none⟩], [.block, .block], ['T', 'L']⟩, ⟨['T', 'T'], [⟨.probe, none, none, none, none, some true⟩, ⟨.backwall, none, none, none, some false, some false⟩, ⟨.grid, none, none, none, some true, none⟩], [.block, .block], ['T', 'T']⟩, ['L', 'T']⟩,
  ⟨.contact true true false, ['T', 'T'], ['L', 'L'], ⟨['T', 'T'], [⟨.probe, none, none, none, none, some true⟩, ⟨.backwall, none, none, none, some false, some false⟩, ⟨.grid, none, none, none, some true, none⟩], [.block, .block], ['T', 'T']⟩, ⟨['L', 'L'], [⟨.probe, none, none, none, none, some true⟩, ⟨.backwall, none, none, none, some false, some false⟩, ⟨.grid, none, none, none, some true, none⟩], [.block, .block], ['L', 'L']⟩, ['T', 'L']⟩,
  ⟨.contact true true false, ['T', 'T'], ['L', 'T'], ⟨['T', 'T'], [⟨.probe, none, none, none, none, some true⟩, ⟨.backwall, none, none, none, some false, some false⟩, ⟨.grid, none, none, none, some true, none⟩], [.block, .block], ['T', 'T']⟩, ⟨['T', 'L'], [⟨.probe, none, none, none, none, some true⟩, ⟨.backwall, none, none, none, some false, some false⟩, ⟨.grid, none, none, none, some true, none⟩], [.block, .block], ['T', 'L']⟩, ['T', 'L']⟩,
  ⟨.contact true true false, ['T', 'T'], ['T', 'L'], ⟨['T', 'T'], [⟨.probe, none, none, none, none, some true⟩, ⟨.backwall, none, none, none, some false, some false⟩, ⟨.grid, none, none, none, some true, none⟩], [.block, .block], ['T', 'T']⟩, ⟨['L', 'T'], [⟨.probe, none, none, none, none, some true⟩, ⟨.backwall, none, none, none, some false, some false⟩, ⟨.grid, none, none, none, some true, none⟩], [.block, .block], ['L', 'T']⟩, ['T', 'T']⟩,
  ⟨.contact true true false, ['T', 'T'], ['T', 'T'], ⟨['T', 'T'], [⟨.probe, none, none, none, none, some true⟩, ⟨.backwall, none, none, none, some false, some false⟩, ⟨.grid, none, none, none, some true, none⟩], [.block, .block], ['T', 'T']⟩, ⟨['T', 'T'], [⟨.probe, none, none, none, none, some true⟩, ⟨.backwall, none, none, none, some false, some false⟩, ⟨.grid, none, none, none, some true, none⟩], [.block, .block], ['T', 'T']⟩, ['T', 'T']⟩,
  ⟨.contact true true false, ['L', 'L', 'L'], ['L'], ⟨['L', 'L', 'L'], [⟨.probe, none, none, none, none, some true⟩, ⟨.backwall, none, none, none, some false, some false⟩, ⟨.frontwall, none, none, none, some true, some true⟩, ⟨.grid, none, none, none, some true, none⟩], [.block, .block, .block], ['L', 'L', 'L']⟩, ⟨['L'], [⟨.probe, none, none, none, none, some true⟩, ⟨.grid, none, none, none, some true, none⟩], [.block], ['L']⟩, ['L', 'L']⟩,
  ⟨.contact true true false, ['L', 'L', 'L'], ['T'], ⟨['L', 'L', 'L'], [⟨.probe, none, none, none, none, some true⟩, ⟨.backwall, none, none, none, some false, some false⟩, ⟨.frontwall, none, none, none, some true, some true⟩, ⟨.grid, none, none, none, some true, none⟩], [.block, .block, .block], ['L', 'L', 'L']⟩, ⟨['T'], [⟨.probe, none, none, none, none, some true⟩, ⟨.grid, none, none, none, some true, none⟩], [.block], ['T']⟩, ['L', 'T']⟩,
  ⟨.contact true true false, ['L', 'L', 'T'], ['L'], ⟨['L', 'L', 'T'], [⟨.probe, none, none, none, none, some true⟩, ⟨.backwall, none, none, none, some false, some false⟩, ⟨.frontwall, none, none, none, some true, some true⟩, ⟨.grid, none, none, none, some true, none⟩], [.block, .block, .block], ['L', 'L', 'T']⟩, ⟨['L'], [⟨.probe, none, none, none, none, some true⟩, ⟨.grid, none, none, none, some true, none⟩], [.block], ['L']⟩, ['T', 'L']⟩,
  ⟨.contact true true false, ['L', 'L', 'T'], ['T'], ⟨['L', 'L', 'T'], [⟨.probe, none, none, none, none, some true⟩, ⟨.backwall, none, none, none, some false, some false⟩, ⟨.frontwall, none, none, none, some true, some true⟩, ⟨.grid, none, none, none, some true, none⟩], [.block, .block, .block], ['L', 'L', 'T']⟩, ⟨['T'], [⟨.probe, none, none, none, none, some true⟩, ⟨.grid, none, none, none, some true, none⟩], [.block], ['T']⟩, ['T', 'T']⟩,
  ⟨.contact true true false, ['L', 'T', 'L'], ['L'], ⟨['L', 'T', 'L'], [⟨.probe, none, none, none, none, some true⟩, ⟨.backwall, none, none, none, some false, some false⟩, ⟨.frontwall, none, none, none, some true, some true⟩, ⟨.grid, none, none, none, some true, none⟩], [.block, .block, .block], ['L', 'T', 'L']⟩, ⟨['L'], [⟨.probe, none, none, none, none, some true⟩, ⟨.grid, none, none, none, some true, none⟩], [.block], ['L']⟩, ['L', 'L']⟩,
  ⟨.contact true true false, ['L', 'T', 'L'], ['T'], ⟨['L', 'T', 'L'], [⟨.probe, none, none, none, none, some true⟩, ⟨.backwall, none, none, none, some false, some false⟩, ⟨.frontwall, none, none, none, some true, some true⟩, ⟨.grid, none, none, none, some true, none⟩], [.block, .block, .block], ['L', 'T', 'L']⟩, ⟨['T'], [⟨.probe, none, none, none, none, some true⟩, ⟨.grid, none, none, none, some true, none⟩], [.block], ['T']⟩, ['L', 'T']⟩,
  ⟨.contact true true false, ['L', 'T', 'T'], ['L'], ⟨['L', 'T', 'T'], [⟨.probe, none, none, none, none, some true⟩, ⟨.backwall, none, none, none, some false, some false⟩, ⟨.frontwall, none, none, none, some true, some true⟩, ⟨.grid, none, none, none, some true, none⟩], [.block, .block, .block], ['L', 'T', 'T']⟩, ⟨['L'], [⟨.probe, none, none, none, none, some true⟩, ⟨.grid, none, none, none, some true, none⟩], [.block], ['L']⟩, ['T', 'L']⟩,
  ⟨.contact true true false, ['L', 'T', 'T'], ['T'], ⟨['L', 'T', 'T'], [⟨.probe, none, none, none, none, some true⟩, ⟨.backwall, none, none, none, some false, some false⟩, ⟨.frontwall, none, none, none, some true, some true⟩, ⟨.grid, none, none, none, some true, none⟩], [.block, .block, .block], ['L', 'T', 'T']⟩, ⟨['T'], [⟨.probe, none, none, none, none, some true⟩, ⟨.grid, none, none, none, some true, none⟩], [.block], ['T']⟩, ['T', 'T']⟩,
  ⟨.contact true true false, ['T', 'L', 'L'], ['L'], ⟨['T', 'L', 'L'], [⟨.probe, none, none, none, none, some true⟩, ⟨.backwall, none, none, none, some false, some false⟩, ⟨.frontwall, none, none, none, some true, some true⟩, ⟨.grid, none, none, none, some true, none⟩], [.block, .block, .block], ['T', 'L', 'L']⟩, ⟨['L'], [⟨.probe, none, none, none, none, some true⟩, ⟨.grid, none, none, none, some true, none⟩], [.block], ['L']⟩, ['L', 'L']⟩,
  ⟨.contact true true false, ['T', 'L', 'L'], ['T'], ⟨['T', 'L', 'L'], [⟨.probe, none, none, none, none, some true⟩, ⟨.backwall, none, none, none, some false, some false⟩, ⟨.frontwall, none, none, none, some true, some true⟩, ⟨.grid, none, none, none, some true, none⟩], [.block, .block, .block], ['T', 'L', 'L']⟩, ⟨['T'], [⟨.probe, none, none, none, none, some true⟩, ⟨.grid, none, none, none, some true, none⟩], [.block], ['T']⟩, ['L', 'T']⟩,
  ⟨.contact true true false, ['T', 'L', 'T'], ['L'], ⟨['T', 'L', 'T'], [⟨.probe, none, none, none, none, some true⟩, ⟨.backwall, none, none, none, some false, some false⟩, ⟨.frontwall, none, none, none, some true, some true⟩, ⟨.grid, none, none, none, some true, none⟩], [.block, .block, .block], ['T', 'L', 'T']⟩, ⟨['L'], [⟨.probe, none, none, none, none, some true⟩, ⟨.grid, none, none, none, some true, none⟩], [.block], ['L']⟩, ['T', 'L']⟩,
  ⟨.contact true true false, ['T', 'L', 'T'], ['T'], ⟨['T', 'L', 'T'], [⟨.probe, none, none, none, none, some true⟩, ⟨.backwall, none, none, none, some false, some false⟩, ⟨.frontwall, none, none, none, some true, some true⟩, ⟨.grid, none, none, none, some true, none⟩], [.block, .block, .block], ['T', 'L', 'T']⟩, ⟨['T'], [⟨.probe, none, none, none, none, some true⟩, ⟨.grid, none, none, none, some true, none⟩], [.block], ['T']⟩, ['T', 'T']⟩
]

def table11 : List ViewEntry := [
  ⟨.contact true true false, ['T', 'T', 'L'], ['L'], ⟨['T', 'T', 'L'], [⟨.probe, none, none, none, none, some true⟩, ⟨.backwall, none, none, none, some false, some false⟩, ⟨.frontwall, none, none, none, some true, some true⟩, ⟨.grid, none, none, none, some true, none⟩], [.block, .block, .block], ['T', 'T', 'L']⟩, ⟨['L'], [⟨.probe, none, none, none, none, some true⟩, ⟨.grid, none, none, none, some true, none⟩], [.block], ['L']⟩, ['L', 'L']⟩,
  ⟨.contact true true false, ['T', 'T', 'L'], ['T'], ⟨['T', 'T', 'L'], [⟨.probe, none, none, none, none, some true⟩, ⟨.backwall, none, none, none, some false, some false⟩, ⟨.frontwall, none, none, none, some true, some true⟩, ⟨.grid, none, none, none, some true, none⟩], [.block, .block, .block], ['T', 'T', 'L']⟩, ⟨['T'], [⟨.probe, none, none, none, none, some true⟩, ⟨.grid, none, none, none, some true, none⟩], [.block], ['T']⟩, ['L', 'T']⟩,
  ⟨.contact true true false, ['T', 'T', 'T'], ['L'], ⟨['T', 'T', 'T'], [⟨.probe, none, none, none, none, some true⟩, ⟨.backwall, none, none, none, some false, some false⟩, ⟨.frontwall, none, none, none, some true, some true⟩, ⟨.grid, none, none, none, some true, none⟩], [.block, .block, .block], ['T', 'T', 'T']⟩, ⟨['L'], [⟨.probe, none, none, none, none, some true⟩, ⟨.grid, none, none, none, some true, none⟩], [.block], ['L']⟩, ['T', 'L']⟩,
  ⟨.contact true true false, ['T', 'T', 'T'], ['T'], ⟨['T', 'T', 'T'], [⟨.probe, none, none, none, none, some true⟩, ⟨.backwall, none, none, none, some false, some false⟩, ⟨.frontwall, none, none, none, some true, some true⟩, ⟨.grid, none, none, none, some true, none⟩], [.block, .block, .block], ['T', 'T', 'T']⟩, ⟨['T'], [⟨.probe, none, none, none, none, some true⟩, ⟨.grid, none, none, none, some true, none⟩], [.block], ['T']⟩, ['T', 'T']⟩,
  ⟨.contact true true false, ['L'], ['L', 'L', 'L'], ⟨['L'], [⟨.probe, none, none, none, none, some true⟩, ⟨.grid, none, none, none, some true, none⟩], [.block], ['L']⟩, ⟨['L', 'L', 'L'], [⟨.probe, none, none, none, none, some true⟩, ⟨.backwall, none, none, none, some false, some false⟩, ⟨.frontwall, none, none, none, some true, some true⟩, ⟨.grid, none, none, none, some true, none⟩], [.block, .block, .block], ['L', 'L', 'L']⟩, ['L', 'L']⟩,
  ⟨.contact true true false, ['L'], ['L', 'L', 'T'], ⟨['L'], [⟨.probe, none, none, none, none, some true⟩, ⟨.grid, none, none, none, some true, none⟩], [.block], ['L']⟩, ⟨['T', 'L', 'L'], [⟨.probe, none, none, none, none, some true⟩, ⟨.backwall, none, none, none, some false, some false⟩, ⟨.frontwall, none, none, none, some true, some true⟩, ⟨.grid, none, none, none, some true, none⟩], [.block, .block, .block], ['T', 'L', 'L']⟩, ['L', 'L']⟩,
  ⟨.contact true true false, ['L'], ['L', 'T', 'L'], ⟨['L'], [⟨.probe, none, none, none, none, some true⟩, ⟨.grid, none, none, none, some true, none⟩], [.block], ['L']⟩, ⟨['L', 'T', 'L'], [⟨.probe, none, none, none, none, some true⟩, ⟨.backwall, none, none, none, some false, some false⟩, ⟨.frontwall, none, none, none, some true, some true⟩, ⟨.grid, none, none, none, some true, none⟩], [.block, .block, .block], ['L', 'T', 'L']⟩, ['L', 'L']⟩,
  ⟨.contact true true false, ['L'], ['L', 'T', 'T'], ⟨['L'], [⟨.probe, none, none, none, none, some true⟩, ⟨.grid, none, none, none, some true, none⟩], [.block], ['L']⟩, ⟨['T', 'T', 'L'], [⟨.probe, none, none, none, none, some true⟩, ⟨.backwall, none, none, none, some false, some false⟩, ⟨.frontwall, none, none, none, some true, some true⟩, ⟨.grid, none, none, none, some true, none⟩], [.block, .block, .block], ['T', 'T', 'L']⟩, ['L', 'L']⟩,
  ⟨.contact true true false, ['L'], ['T', 'L', 'L'], ⟨['L'], [⟨.probe, none, none, none, none, some true⟩, ⟨.grid, none, none, none, some true, none⟩], [.block], ['L']⟩, ⟨['L', 'L', 'T'], [⟨.probe, none, none, none, none, some true⟩, ⟨.backwall, none, none, none, some false, some false⟩, ⟨.frontwall, none, none, none, some true, some true⟩, ⟨.grid, none, none, none, some true, none⟩], [.block, .block, .block], ['L', 'L', 'T']⟩, ['L', 'T']⟩,
  ⟨.contact true true false, ['L'], ['T', 'L', 'T'], ⟨['L'], [⟨.probe, none, none, none, none, some true⟩, ⟨.grid, none, none, none, some true, none⟩], [.block], ['L']⟩, ⟨['T', 'L', 'T'], [⟨.probe, none, none, none, none, some true⟩, ⟨.backwall, none, none, none, some false, some false⟩, ⟨.frontwall, none, none, none, some true, some true⟩, ⟨.grid, none, none, none, some true, none⟩], [.block, .block, .block], ['T', 'L', 'T']⟩, ['L', 'T']⟩,
  ⟨.contact true true false, ['L'], ['T', 'T', 'L'], ⟨['L'], [⟨.probe, none, none, none, none, some true⟩, ⟨.grid, none, none, none, some true, none⟩], [.block], ['L']⟩, ⟨['L', 'T', 'T'], [⟨.probe, none, none, none, none, some true⟩, ⟨.backwall, none, none, none, some false, some false⟩, ⟨.frontwall, none, none, none, some true, some true⟩, ⟨.grid, none, none, none, some true, none⟩], [.block, .block, .block], ['L', 'T', 'T']⟩, ['L', 'T']⟩,
  ⟨.contact true true false, ['L'], ['T', 'T', 'T'], ⟨['L'], [⟨.probe, none, none, none, none, some true⟩, ⟨.grid, none, none, none, some true, none⟩], [.block], ['L']⟩, ⟨['T', 'T', 'T'], [⟨.probe, none, none, none, none, some true⟩, ⟨.backwall, none, none, none, some false, some false⟩, ⟨.frontwall, none, none, none, some true, some true⟩, ⟨.grid, none, none, none, some true, none⟩], [.block, .block, .block], ['T', 'T', 'T']⟩, ['L', 'T']⟩,
  ⟨.contact true true false, ['T'], ['L', 'L', 'L'], ⟨['T'], [⟨.probe, none, none, none, none, some true⟩, ⟨.grid, none, none, none, some true, none⟩], [.block], ['T']⟩, ⟨['L', 'L', 'L'], [⟨.probe, none, none, none, none, some true⟩, ⟨.backwall, none, none, none, some false, some false⟩, ⟨.frontwall, none, none, none, some true, some true⟩, ⟨.grid, none, none, none, some true, none⟩], [.block, .block, .block], ['L', 'L', 'L']⟩, ['T', 'L']⟩,
  ⟨.contact true true false, ['T'], ['L', 'L', 'T'], ⟨['T'], [⟨.probe, none, none, none, none, some true⟩, ⟨.grid, none, none, none, some true, none⟩], [.block], ['T']⟩, ⟨['T', 'L', 'L'], [⟨.probe, none, none, none, none, some true⟩, ⟨.backwall, none, none, none, some false, some false⟩, ⟨.frontwall, none, none, none, some true, some true⟩, ⟨.grid, none, none, none, some true, none⟩], [.block, .block, .block], ['T', 'L', 'L']⟩, ['T', 'L']⟩,
  ⟨.contact true true false, ['T'], ['L', 'T', 'L'], ⟨['T'], [⟨.probe, none, none, none, none, some true⟩, ⟨.grid, none, none, none, some true, none⟩], [.block], ['T']⟩, ⟨['L', 'T', 'L'], [⟨.probe, none, none, none, none, some true⟩, ⟨.backwall, none, none, none, some false, some false⟩, ⟨.frontwall, none, none, none, some true, some true⟩, ⟨.grid, none, none, none, some true, none⟩], [.block, .block, .block], ['L', 'T', 'L']⟩, ['T', 'L']⟩,
  ⟨.contact true true false, ['T'], ['L', 'T', 'T'], ⟨['T'], [⟨.probe, none, none, none, none, some true⟩, ⟨.grid, none, none, none, some true, none⟩], [.block], ['T']⟩, ⟨['T', 'T', 'L'], [⟨.probe, none, none, none, none, some true⟩, ⟨.backwall, none, none, none, some false, some false⟩, ⟨.frontwall, none, none, none, some true, some true⟩, ⟨.grid, none, none, none, some true, none⟩], [.block, .block, .block], ['T', 'T', 'L']⟩, ['T', 'L']⟩,
  ⟨.contact true true false, ['T'], ['T', 'L', 'L'], ⟨['T'], [⟨.probe, none, none, none, none, some true⟩, ⟨.grid, none, none, none, some true, none⟩], [.block], ['T']⟩, ⟨['L', 'L', 'T'], [⟨.probe, none, none, none, none, some true⟩, ⟨.backwall, none, none, none, some false, some false⟩, ⟨.frontwall, none, none, none, some true, some true⟩, ⟨.grid, none, none, none, some true, none⟩], [.block, .block, .block], ['L', 'L', 'T']⟩, ['T', 'T']⟩,
  ⟨.contact true true false, ['T'], ['T', 'L', 'T'], ⟨['T'], [⟨.probe, none, none, none, none, some true⟩, ⟨.grid, none, none, none, some true, none⟩], [.block], ['T']⟩, ⟨['T', 'L', 'T'], [⟨.probe, none, none, none, none, some true⟩, ⟨.backwall, none, none, none, some false, some false⟩, ⟨.frontwall, none, none, none, some true, some true⟩, ⟨.grid, none, none, none, some true, none⟩], [.block, .block, .block], ['T', 'L', 'T']⟩, ['T', 'T']⟩,
  ⟨.contact true true false, ['T'], ['T', 'T', 'L'], ⟨['T'], [⟨.probe, none, none, none, none, some true⟩, ⟨.grid, none, none, none, some true, none⟩], [.block], ['T']⟩, ⟨['L', 'T', 'T'], [⟨.probe, none, none, none, none, some true⟩, ⟨.backwall, none, none, none, some false, some false⟩, ⟨.frontwall, none, none, none, some true, some true⟩, ⟨.grid, none, none, none, some true, none⟩], [.block, .block, .block], ['L', 'T', 'T']⟩, ['T', 'T']⟩,
  ⟨.contact true true false, ['T'], ['T', 'T', 'T'], ⟨['T'], [⟨.probe, none, none, none, none, some true⟩, ⟨.grid, none, none, none, some true, none⟩], [.block], ['T']⟩, ⟨['T', 'T', 'T'], [⟨.probe, none, none, none, none, some true⟩, ⟨.backwall, none, none, none, some false, some false⟩, ⟨.frontwall, none, none, none, some true, some true⟩, ⟨.grid, none, none, none, some true, none⟩], [.block, .block, .block], ['T', 'T', 'T']⟩, ['T', 'T']⟩,
  ⟨.contact true true false, ['L', 'L', 'L'], ['L', 'L'], ⟨['L', 'L', 'L'], [⟨.probe, none, none, none, none, some true⟩, ⟨.backwall, none, none, none, some false, some false⟩, ⟨.frontwall, none, none, none, some true, some true⟩, ⟨.grid, none, none, none, some true, none⟩], [.block, .block, .block], ['L', 'L', 'L']⟩, ⟨['L', 'L'], [⟨.probe, none, none, none, none, some true⟩, ⟨.backwall, none, none, none, some false, some false⟩, ⟨.grid, none, none, none, some true, none⟩], [.block, .block], ['L', 'L']⟩, ['L', 'L']⟩,
  ⟨.contact true true false, ['L', 'L', 'L'], ['L', 'T'], ⟨['L', 'L', 'L'], [⟨.probe, none, none, none, none, some true⟩, ⟨.backwall, none, none, none, some false, some false⟩, ⟨.frontwall, none, none, none, some true, some true⟩, ⟨.grid, none, none, none, some true, none⟩], [.block, .block, .block], ['L', 'L', 'L']⟩, ⟨['T', 'L'], [⟨.probe, none, none, none, none, some true⟩, ⟨.backwall, none, none, none, some false, some false⟩, ⟨.grid, none, none, none, some true, none⟩], [.block, .block], ['T', 'L']⟩, ['L', 'L']⟩,
  ⟨.contact true true false, ['L', 'L', 'L'], ['T', 'L'], ⟨['L', 'L', 'L'], [⟨.probe, none, none, none, none, some true⟩, ⟨.backwall, none, none, none, some false, some false⟩, ⟨.frontwall, none, none, none, some true, some true⟩, ⟨.grid, none, none, none, some true, none⟩], [.block, .block, .block], ['L', 'L', 'L']⟩, ⟨['L', 'T'], [⟨.probe, none, none, none, none, some true⟩, ⟨.backwall, none, none, none, some false, some false⟩, ⟨.grid, none, none, none, some true, none⟩], [.block, .block], ['L', 'T']⟩, ['L', 'T']⟩,
  ⟨.contact true true false, ['L', 'L', 'L'], ['T', 'T'], ⟨['L', 'L', 'L'], [⟨.probe, none, none, none, none, some true⟩, ⟨.backwall, none, none, none, some false, some false⟩, ⟨.frontwall, none, none, none, some true, some true⟩, ⟨.grid, none, none, none, some true, none⟩], [.block, .block, .block], ['L', 'L', 'L']⟩, ⟨['T', 'T'], [⟨.probe, none, none, none, none, some true⟩, ⟨.backwall, none, none, none, some false, some false⟩, ⟨.grid, none, none, none, some true, none⟩], [.block, .block], ['T', 'T']⟩, ['L', 'T']⟩,
  ⟨.contact true true false, ['L', 'L', 'T'], ['L', 'L'], ⟨['L', 'L', 'T'], [⟨.probe, none, none, none, none, some true⟩, ⟨.backwall, none, none, none, some false, some false⟩, ⟨.frontwall, none, none, none, some true, some true⟩, ⟨.grid, none, none, none, some true, none⟩], [.block, .block, .block], ['L', 'L', 'T']⟩, ⟨['L', 'L'], [⟨.probe, none, none, none, none, some true⟩, ⟨.backwall, none, none, none, some false, some false⟩, ⟨.grid, none, none, none, some true, none⟩], [.block, .block], ['L', 'L']⟩, ['T', 'L']⟩,
  ⟨.contact true true false, ['L', 'L', 'T'], ['L', 'T'], ⟨['L', 'L', 'T'], [⟨.probe, none, none, none, none, some true⟩, ⟨.backwall, none, none, none, some false, some false⟩, ⟨.frontwall, none, none, none, some true, some true⟩, ⟨.grid, none, none, none, some true, none⟩], [.block, .block, .block], ['L', 'L', 'T']⟩, ⟨['T', 'L'], [⟨.probe, none, none, none, none, some true⟩, ⟨.backwall, none, none, none, some false, some false⟩, ⟨.grid, none, none, none, some true, none⟩], [.block, .block], ['T', 'L']⟩, ['T', 'L']⟩,
  ⟨.contact true true false, ['L', 'L', 'T'], ['T', 'L'], ⟨['L', 'L', 'T'], [⟨.probe, none, none, none, none, some true⟩, ⟨.backwall, none, none, none, some false, some false⟩, ⟨.frontwall, none, none, none, some true, some true⟩, ⟨.grid, none, none, none, some true, none⟩], [.block, .block, .block], ['L', 'L', 'T']⟩, ⟨['L', 'T'], [⟨.probe, none, none, none, none, some true⟩, ⟨.backwall, none, none, none, some false, some false⟩, ⟨.grid, none, none, none, some true, none⟩], [.block, .block], ['L', 'T']⟩, ['T', 'T']⟩,
  ⟨.contact true true false, ['L', 'L', 'T'], ['T', 'T'], ⟨['L', 'L', 'T'], [⟨.probe, none, none, none, none, some true⟩, ⟨.backwall, none, none, none, some false, some false⟩, ⟨.frontwall, none, none, none, some true, some true⟩, ⟨.grid, none, none, none, some true, none⟩], [.block, .block, .block], ['L', 'L', 'T']⟩, ⟨['T', 'T'], [⟨.probe, none, none, none, none, some true⟩, ⟨.backwall, none, none, none, some false, some false⟩, ⟨.grid, none, none, none, some true, none⟩], [.block, .block], ['T', 'T']⟩, ['T', 'T']⟩,
  ⟨.contact true true false, ['L', 'T', 'L'], ['L', 'L'], ⟨['L', 'T', 'L'], [⟨.probe, none, none, none, none, some true⟩, ⟨.backwall, none, none, none, some false, some false⟩, ⟨.frontwall, none, none, none, some true, some true⟩, ⟨.grid, none, none, none, some true, none⟩], [.block, .block, .block], ['L', 'T', 'L']⟩, ⟨['L', 'L'], [⟨.probe, none, none, none, none, some true⟩, ⟨.backwall, none, none, none, some false, some false⟩, ⟨.grid, none, none, none, some true, none⟩], [.block, .block], ['L', 'L']⟩, ['L', 'L']⟩,
  ⟨.contact true true false, ['L', 'T', 'L'], ['L', 'T'], ⟨['L', 'T', 'L'], [⟨.probe, none, none, none, none, some true⟩, ⟨.backwall, none, none, none, some false, some false⟩, ⟨.frontwall, none, none, none, some true, some true⟩, ⟨.grid, none, none, none, some true, none⟩], [.block, .block, .block], ['L', 'T', 'L']⟩, ⟨['T', 'L'], [⟨.probe, none, none, none, none, some true⟩, ⟨.backwall, none, none, none, some false, some false⟩, ⟨.grid, none, none, none, some true, none⟩], [.block, .block], ['T', 'L']⟩, ['L', 'L']⟩,
  ⟨.contact true true false, ['L', 'T', 'L'], ['T', 'L'], ⟨['L', 'T', 'L'], [⟨.probe, none, none, none, none, some true⟩, ⟨.backwall, none, none, none, some false, some false⟩, ⟨.frontwall, none, none, none, some true, some true⟩, ⟨.grid, none, none, none, some true, none⟩], [.block, .block, .block], ['L', 'T', 'L']⟩, ⟨['L', 'T'], [⟨.probe, none, none, none, none, some true⟩, ⟨.backwall, none, none, none, some false, some false⟩, ⟨.grid, none, none, none, some true, none⟩], [.block, .block], ['L', 'T']⟩, ['L', 'T']⟩,
  ⟨.contact true true false, ['L', 'T', 'L'], ['T', 'T'], ⟨['L', 'T', 'L'], [⟨.probe, none, none, none, none, some true⟩, ⟨.backwall, none, none, none, some false, some false⟩, ⟨.frontwall, none, none, none, some true, some true⟩, ⟨.grid, none, none, none, some true, none⟩], [.block, .block, .block], ['L', 'T', 'L']⟩, ⟨['T', 'T'], [⟨.probe, none, none, none, none, some true⟩, ⟨.backwall, none, none, none, some false, some false⟩, ⟨.grid, none, none, none, some true, none⟩], [.block, .block], ['T', 'T']⟩, ['L', 'T']⟩,
  ⟨.contact true true false, ['L', 'T', 'T'], ['L', 'L'], ⟨['L', 'T', 'T'], [⟨.probe, none, none, none, none, some true⟩, ⟨.backwall, none, none, none, some false, some false⟩, ⟨.frontwall, none, none, none, some true, some true⟩, ⟨.grid, none, none, none, some true, none⟩], [.block, .block, .block], ['L', 'T', 'T']⟩, ⟨['L', 'L'], [⟨.probe, none, none, none, none, some true⟩, ⟨.backwall, none, none, none, some false, some false⟩, ⟨.grid, none, none, none, some true, none⟩], [.block, .block], ['L', 'L']⟩, ['T', 'L']⟩,
  ⟨.contact true true false, ['L', 'T', 'T'], ['L', 'T'], ⟨['L', 'T', 'T'], [⟨.probe, none, none, none, none, some true⟩, ⟨.backwall, none, none, none, some false, some false⟩, ⟨.frontwall, none, none, none, some true, some true⟩, ⟨.grid, none, none, none, some true, none⟩], [.block, .block, .block], ['L', 'T', 'T']⟩, ⟨['T', 'L'], [⟨.probe, none, none, none, none, some true⟩, ⟨.backwall, none, none, none, some false, some false⟩, ⟨.grid, none, none, none, some true, none⟩], [.block, .block], ['T', 'L']⟩, ['T', 'L']⟩,
  ⟨.contact true true false, ['L', 'T', 'T'], ['T', 'L'], ⟨['L', 'T', 'T'], [⟨.probe, none, none, none, none, some true⟩, ⟨.backwall, none, none, none, some false, some false⟩, ⟨.frontwall, none, none, none, some true, some true⟩, ⟨.grid, none, none, none, some true, none⟩], [.block, .block, .block], ['L', 'T', 'T']⟩, ⟨['L', 'T'], [⟨.probe, none, none, none, none, some true⟩, ⟨.backwall, none, none, none, some false, some false⟩, ⟨.grid, none, none, none, some true, none⟩], [.block, .block], ['L', 'T']⟩, ['T', 'T']⟩,
  ⟨.contact true true false, ['L', 'T', 'T'], ['T', 'T'], ⟨['L', 'T', 'T'], [⟨.probe, none, none, none, none, some true⟩, ⟨.backwall, none, none, none, some false, some false⟩, ⟨.frontwall, none, none, none, some true, some true⟩, ⟨.grid, none, none, none, some true, none⟩], [.block, .block, .block], ['L', 'T', 'T']⟩, ⟨['T', 'T'], [⟨.probe, none, none, none, none, some true⟩, ⟨.backwall, none, none, none, some false, some false⟩, ⟨.grid, none, none, none, some true, none⟩], [.block, .block], ['T', 'T']⟩, ['T', 'T']⟩,
  ⟨.contact true true false, ['T', 'L', 'L'], ['L', 'L'], ⟨['T', 'L', 'L'], [⟨.probe, none, none, none, none, some true⟩, ⟨.backwall, none, none, none, some false, some false⟩, ⟨.frontwall, none, none, none, some true, some true⟩, ⟨.grid, none, none, none, some true, none⟩], [.block, .block, .block], ['T', 'L', 'L']⟩, ⟨['L', 'L'], [⟨.probe, none, none, none, none, some true⟩, ⟨.backwall, none, none, none, some false, some false⟩, ⟨.grid, none, none, none, some true, none⟩], [.block, .block], ['L', 'L']⟩, ['L', 'L']⟩,
  ⟨.contact true true false, ['T', 'L', 'L'], ['L', 'T'], ⟨['T', 'L', 'L'], [⟨.probe, none, none, none, none, some true⟩, ⟨.backwall, none, none, none, some false, some false⟩, ⟨.frontwall, none, none, none, some true, some true⟩, ⟨.grid, none, none, none, some true, none⟩], [.block, .block, .block], ['T', 'L', 'L']⟩, ⟨['T', 'L'], [⟨.probe, none, none, none, none, some true⟩, ⟨.backwall, none, none, none, some false, some false⟩, ⟨.grid, none, none, none, some true, none⟩], [.block, .block], ['T', 'L']⟩, ['L', 'L']⟩,
  ⟨.contact true true false, ['T', 'L', 'L'], ['T', 'L'], ⟨['T', 'L', 'L'], [⟨.probe, none, none, none, none, some true⟩, ⟨.backwall, none, none, none, some false, some false⟩, ⟨.frontwall, none, none, none, some true, some true⟩, ⟨.grid, none, none, none, some true, none⟩], [.block, .block, .block], ['T', 'L', 'L']⟩, ⟨['L', 'T'], [⟨.probe, none, none, none, none, some true⟩, ⟨.backwall, none, none, none, some false, some false⟩, ⟨.grid, none, none, none, some true, none⟩], [.block, .block], ['L', 'T']⟩, ['L', 'T']⟩,
  ⟨.contact true true false, ['T', 'L', 'L'], ['T', 'T'], ⟨['T', 'L', 'L'], [⟨.probe, none, none, none, none, some true⟩, ⟨.backwall, none, none, none, some false, some false⟩, ⟨.frontwall, none, none, none, some true, some true⟩, ⟨.grid, none, none, none, some true, none⟩], [.block, .block, .block], ['T', 'L', 'L']⟩, ⟨['T', 'T'], [⟨.probe, none, none, none, none, some true⟩, ⟨.backwall, none, none, none, some false, some false⟩, ⟨.grid, none, none, none, some true, none⟩], [.block, .block], ['T', 'T']⟩, ['L', 'T']⟩
]

def table12 : List ViewEntry := [
  ⟨.contact true true false, ['T', 'L', 'T'], ['L', 'L'], ⟨['T', 'L', 'T'], [⟨.probe, none, none, none, none, some true⟩, ⟨.backwall, none, none, none, some false, some false⟩, ⟨.frontwall, none, none, none, some true, some true⟩, ⟨.grid, none, none, none, some true, none⟩], [.block, .block, .block], ['T', 'L', 'T']⟩, ⟨['L', 'L'], [⟨.probe, none, none, none, none, some true⟩, ⟨.backwall, none, none, none, some false, some false⟩, ⟨.grid, none, none, none, some true, none⟩], [.block, .block], ['L', 'L']⟩, ['T', 'L']⟩,
  ⟨.contact true true false, ['T', 'L', 'T'], ['L', 'T'], ⟨['T', 'L', 'T'], [⟨.probe, none, none, none, none, some true⟩, ⟨.backwall, none, none, none, some false, some false⟩, ⟨.frontwall, none, none, none, some true, some true⟩, ⟨.grid, none, none, none, some true, none⟩], [.block, .block, .block], ['T', 'L', 'T']⟩, ⟨['T', 'L'], [⟨.probe, none, none, none, none, some true⟩, ⟨.backwall, none, none, none, some false, some false⟩, ⟨.grid, none, none, none, some true, none⟩], [.block, .block], ['T', 'L']⟩, ['T', 'L']⟩,
  ⟨.contact true true false, ['T', 'L', 'T'], ['T', 'L'], ⟨['T', 'L', 'T'], [⟨.probe, none, none, none, none, some true⟩, ⟨.backwall, none, none, none, some false, some false⟩, ⟨.frontwall, none, none, none, some true, some true⟩, ⟨.grid, none, none, none, some true, none⟩], [.block, .block, .block], ['T', 'L', 'T']⟩, ⟨['L', 'T'], [⟨.probe, none, none, none, none, some true⟩, ⟨.backwall, none, none, none, some false, some false⟩, ⟨.grid, none, none, none, some true, none⟩], [.block, .block], ['L', 'T']⟩, ['T', 'T']⟩,
  ⟨.contact true true false, ['T', 'L', 'T'], ['T', 'T'], ⟨['T', 'L', 'T'], [⟨.probe, none, none, none, none, some true⟩, ⟨.backwall, none, none, none, some false, some false⟩, ⟨.frontwall, none, none, none, some true, some true⟩, ⟨.grid, none, none, none, some true, none⟩], [.block, .block, .block], ['T', 'L', 'T']⟩, ⟨['T', 'T'], [⟨.probe, none, none, none, none, some true⟩, ⟨.backwall, none, none, none, some false, some false⟩, ⟨.grid, none, none, none, some true, none⟩], [.block, .block], ['T', 'T']⟩, ['T', 'T']⟩,
  ⟨.contact true true false, ['T', 'T', 'L'], ['L', 'L'], ⟨['T', 'T', 'L'], [⟨.probe, none, none, none, none, some true⟩, ⟨.backwall, none, none, none, some false, some false⟩, ⟨.frontwall, none, none, none, some true, some true⟩, ⟨.grid, none, none, none, some true, none⟩], [.block, .block, .block], ['T', 'T', 'L']⟩, ⟨['L', 'L'], [⟨.probe, none, none, none, none, some true⟩, ⟨.backwall, none, none, none, some false, some false⟩, ⟨.grid, none, none, none, some true, none⟩], [.block, .block], ['L', 'L']⟩, ['L', 'L']⟩,
  ⟨.contact true true false, ['T', 'T', 'L'], ['L', 'T'], ⟨['T', 'T', 'L'], [⟨.probe, none, none, none, none, some true⟩, ⟨.backwall, none, none, none, some false, some false⟩, ⟨.frontwall, none, none, none, some true, some true⟩, ⟨.grid, none, none, none, some true, none⟩], [.block, .block, .block], ['T', 'T', 'L']⟩, ⟨['T', 'L'], [⟨.probe, none, none, none, none, some true⟩, ⟨.backwall, none, none, none, some false, some false⟩, ⟨.grid, none, none, none, some true, none⟩], [.block, .block], ['T', 'L']⟩, ['L', 'L']⟩,
  ⟨.contact true true false, ['T', 'T', 'L'], ['T', 'L'], ⟨['T', 'T', 'L'], [⟨.probe, none, none, none, none, some true⟩, ⟨.backwall, none, none, none, some false, some false⟩, ⟨.frontwall, none, none, none, some true, some true⟩, ⟨.grid, none, none, none, some true, none⟩], [.block, .block, .block], ['T', 'T', 'L']⟩, ⟨['L', 'T'], [⟨.probe, none, none, none, none, some true⟩, ⟨.backwall, none, none, none, some false, some false⟩, ⟨.grid, none, none, none, some true, none⟩], [.block, .block], ['L', 'T']⟩, ['L', 'T']⟩,
  ⟨.contact true true false, ['T', 'T', 'L'], ['T', 'T'], ⟨['T', 'T', 'L'], [⟨.probe, none, none, none, none, some true⟩, ⟨.backwall, none, none, none, some false, some false⟩, ⟨.frontwall, none, none, none, some true, some true⟩, ⟨.grid, none, none, none, some true, none⟩], [.block, .block, .block], ['T', 'T', 'L']⟩, ⟨['T', 'T'], [⟨.probe, none, none, none, none, some true⟩, ⟨.backwall, none, none, none, some false, some false⟩, ⟨.grid, none, none, none, some true, none⟩], [.block, .block], ['T', 'T']⟩, ['L', 'T']⟩,
  ⟨.contact true true false, ['T', 'T', 'T'], ['L', 'L'], ⟨['T', 'T', 'T'], [⟨.probe, none, none, none, none, some true⟩, ⟨.backwall, none, none, none, some false, some false⟩, ⟨.frontwall, none, none, none, some true, some true⟩, ⟨.grid, none, none, none, some true, none⟩], [.block, .block, .block], ['T', 'T', 'T']⟩, ⟨['L', 'L'], [⟨.probe, none, none, none, none, some true⟩, ⟨.backwall, none, none, none, some false, some false⟩, ⟨.grid, none, none, none, some true, none⟩], [.block, .block], ['L', 'L']⟩, ['T', 'L']⟩,
  ⟨.contact true true false, ['T', 'T', 'T'], ['L', 'T'], ⟨['T', 'T', 'T'], [⟨.probe, none, none, none, none, some true⟩, ⟨.backwall, none, none, none, some false, some false⟩, ⟨.frontwall, none, none, none, some true, some true⟩, ⟨.grid, none, none, none, some true, none⟩], [.block, .block, .block], ['T', 'T', 'T']⟩, ⟨['T', 'L'], [⟨.probe, none, none, none, none, some true⟩, ⟨.backwall, none, none, none, some false, some false⟩, ⟨.grid, none, none, none, some true, none⟩], [.block, .block], ['T', 'L']⟩, ['T', 'L']⟩,
  ⟨.contact true true false, ['T', 'T', 'T'], ['T', 'L'], ⟨['T', 'T', 'T'], [⟨.probe, none, none, none, none, some true⟩, ⟨.backwall, none, none, none, some false, some false⟩, ⟨.frontwall, none, none, none, some true, some true⟩, ⟨.grid, none, none, none, some true, none⟩], [.block, .block, .block], ['T', 'T', 'T']⟩, ⟨['L', 'T'], [⟨.probe, none, none, none, none, some true⟩, ⟨.backwall, none, none, none, some false, some false⟩, ⟨.grid, none, none, none, some true, none⟩], [.block, .block], ['L', 'T']⟩, ['T', 'T']⟩,
  ⟨.contact true true false, ['T', 'T', 'T'], ['T', 'T'], ⟨['T', 'T', 'T'], [⟨.probe, none, none, none, none, some true⟩, ⟨.backwall, none, none, none, some false, some false⟩, ⟨.frontwall, none, none, none, some true, some true⟩, ⟨.grid, none, none, none, some true, none⟩], [.block, .block, .block], ['T', 'T', 'T']⟩, ⟨['T', 'T'], [⟨.probe, none, none, none, none, some true⟩, ⟨.backwall, none, none, none, some false, some false⟩, ⟨.grid, none, none, none, some true, none⟩], [.block, .block], ['T', 'T']⟩, ['T', 'T']⟩,
  ⟨.contact true true false, ['L', 'L'], ['L', 'L', 'L'], ⟨['L', 'L'], [⟨.probe, none, none, none, none, some true⟩, ⟨.backwall, none, none, none, some false, some false⟩, ⟨.grid, none, none, none, some true, none⟩], [.block, .block], ['L', 'L']⟩, ⟨['L', 'L', 'L'], [⟨.probe, none, none, none, none, some true⟩, ⟨.backwall, none, none, none, some false, some false⟩, ⟨.frontwall, none, none, none, some true, some true⟩, ⟨.grid, none, none, none, some true, none⟩], [.block, .block, .block], ['L', 'L', 'L']⟩, ['L', 'L']⟩,
  ⟨.contact true true false, ['L', 'L'], ['L', 'L', 'T'], ⟨['L', 'L'], [⟨.probe, none, none, none, none, some true⟩, ⟨.backwall, none, none, none, some false, some false⟩, ⟨.grid, none, none, none, some true, none⟩], [.block, .block], ['L', 'L']⟩, ⟨['T', 'L', 'L'], [⟨.probe, none, none, none, none, some true⟩, ⟨.backwall, none, none, none, some false, some false⟩, ⟨.frontwall, none, none, none, some true, some true⟩, ⟨.grid, none, none, none, some true, none⟩], [.block, .block, .block], ['T', 'L', 'L']⟩, ['L', 'L']⟩,
  ⟨.contact true true false, ['L', 'L'], ['L', 'T', 'L'], ⟨['L', 'L'], [⟨.probe, none, none, none, none, some true⟩, ⟨.backwall, none, none, none, some false, some false⟩, ⟨.grid, none, none, none, some true, none⟩], [.block, .block], ['L', 'L']⟩, ⟨['L', 'T', 'L'], [⟨.probe, none, none, none, none, some true⟩, ⟨.backwall, none, none, none, some false, some false⟩, ⟨.frontwall, none, none, none, some true, some true⟩, ⟨.grid, none, none, none, some true, none⟩], [.block, .block, .block], ['L', 'T', 'L']⟩, ['L', 'L']⟩,
  ⟨.contact true true false, ['L', 'L'], ['L', 'T', 'T'], ⟨['L', 'L'], [⟨.probe, none, none, none, none, some true⟩, ⟨.backwall, none, none, none, some false, some false⟩, ⟨.grid, none, none, none, some true, none⟩], [.block, .block], ['L', 'L']⟩, ⟨['T', 'T', 'L'], [⟨.probe, none, none, none, none, some true⟩, ⟨.backwall, none, none, none, some false, some false⟩, ⟨.frontwall, none, none, none, some true, some true⟩, ⟨.grid, none, none, none, some true, none⟩], [.block, .block, .block], ['T', 'T', 'L']⟩, ['L', 'L']⟩,
  ⟨.contact true true false, ['L', 'L'], ['T', 'L', 'L'], ⟨['L', 'L'], [⟨.probe, none, none, none, none, some true⟩, ⟨.backwall, none, none, none, some false, some false⟩, ⟨.grid, none, none, none, some true, none⟩], [.block, .block], ['L', 'L']⟩, ⟨['L', 'L', 'T'], [⟨.probe, none, none, none, none, some true⟩, ⟨.backwall, none, none, none, some false, some false⟩, ⟨.frontwall, none, none, none, some true, some true⟩, ⟨.grid, none, none, none, some true, none⟩], [.block, .block, .block], ['L', 'L', 'T']⟩, ['L', 'T']⟩,
  ⟨.contact true true false, ['L', 'L'], ['T', 'L', 'T'], ⟨['L', 'L'], [⟨.probe, none, none, none, none, some true⟩, ⟨.backwall, none, none, none, some false, some false⟩, ⟨.grid, none, none, none, some true, none⟩], [.block, .block], ['L', 'L']⟩, ⟨['T', 'L', 'T'], [⟨.probe, none, none, none, none, some true⟩, ⟨.backwall, none, none, none, some false, some false⟩, ⟨.frontwall, none, none, none, some true, some true⟩, ⟨.grid, none, none, none, some true, none⟩], [.block, .block, .block], ['T', 'L', 'T']⟩, ['L', 'T']⟩,
  ⟨.contact true true false, ['L', 'L'], ['T', 'T', 'L'], ⟨['L', 'L'], [⟨.probe, none, none, none, none, some true⟩, ⟨.backwall, none, none, none, some false, some false⟩, ⟨.grid, none, none, none, some true, none⟩], [.block, .block], ['L', 'L']⟩, ⟨['L', 'T', 'T'], [⟨.probe, none, none, none, none, some true⟩, ⟨.backwall, none, none, none, some false, some false⟩, ⟨.frontwall, none, none, none, some true, some true⟩, ⟨.grid, none, none, none, some true, none⟩], [.block, .block, .block], ['L', 'T', 'T']⟩, ['L', 'T']⟩,
  ⟨.contact true true false, ['L', 'L'], ['T', 'T', 'T'], ⟨['L', 'L'], [⟨.probe, none, none, none, none, some true⟩, ⟨.backwall, none, none, none, some false, some false⟩, ⟨.grid, none, none, none, some true, none⟩], [.block, .block], ['L', 'L']⟩, ⟨['T', 'T', 'T'], [⟨.probe, none, none, none, none, some true⟩, ⟨.backwall, none, none, none, some false, some false⟩, ⟨.frontwall, none, none, none, some true, some true⟩, ⟨.grid, none, none, none, some true, none⟩], [.block, .block, .block], ['T', 'T', 'T']⟩, ['L', 'T']⟩,
  ⟨.contact true true false, ['L', 'T'], ['L', 'L', 'L'], ⟨['L', 'T'], [⟨.probe, none, none, none, none, some true⟩, ⟨.backwall, none, none, none, some false, some false⟩, ⟨.grid, none, none, none, some true, none⟩], [.block, .block], ['L', 'T']⟩, ⟨['L', 'L', 'L'], [⟨.probe, none, none, none, none, some true⟩, ⟨.backwall, none, none, none, some false, some false⟩, ⟨.frontwall, none, none, none, some true, some true⟩, ⟨.grid, none, none, none, some true, none⟩], [.block, .block, .block], ['L', 'L', 'L']⟩, ['T', 'L']⟩,
  ⟨.contact true true false, ['L', 'T'], ['L', 'L', 'T'], ⟨['L', 'T'], [⟨.probe, none, none, none, none, some true⟩, ⟨.backwall, none, none, none, some false, some false⟩, ⟨.grid, none, none, none, some true, none⟩], [.block, .block], ['L', 'T']⟩, ⟨['T', 'L', 'L'], [⟨.probe, none, none, none, none, some true⟩, ⟨.backwall, none, none, none, some false, some false⟩, ⟨.frontwall, none, none, none, some true, some true⟩, ⟨.grid, none, none, none, some true, none⟩], [.block, .block, .block], ['T', 'L', 'L']⟩, ['T', 'L']⟩,
  ⟨.contact true true false, ['L', 'T'], ['L', 'T', 'L'], ⟨['L', 'T'], [⟨.probe, none, none, none, none, some true⟩, ⟨.backwall, none, none, none, some false, some false⟩, ⟨.grid, none, none, none, some true, none⟩], [.block, .block], ['L', 'T']⟩, ⟨['L', 'T', 'L'], [⟨.probe, none, none, none, none, some true⟩, ⟨.backwall, none, none, none, some false, some false⟩, ⟨.frontwall, none, none, none, some true, some true⟩, ⟨.grid, none, none, none, some true, none⟩], [.block, .block, .block], ['L', 'T', 'L']⟩, ['T', 'L']⟩,
  ⟨.contact true true false, ['L', 'T'], ['L', 'T', 'T'], ⟨['L', 'T'], [⟨.probe, none, none, none, none, some true⟩, ⟨.backwall, none, none, none, some false, some false⟩, ⟨.grid, none, none, none, some true, none⟩], [.block, .block], ['L', 'T']⟩, ⟨['T', 'T', 'L'], [⟨.probe, none, none, none, none, some true⟩, ⟨.backwall, none, none, none, some false, some false⟩, ⟨.frontwall, none, none, none, some true, some true⟩, ⟨.grid, none, none, none, some true, none⟩], [.block, .block, .block], ['T', 'T', 'L']⟩, ['T', 'L']⟩,
  ⟨.contact true true false, ['L', 'T'], ['T', 'L', 'L'], ⟨['L', 'T'], [⟨.probe, none, none, none, none, some true⟩, ⟨.backwall, none, none, none, some false, some false⟩, ⟨.grid, none, none, none, some true, none⟩], [.block, .block], ['L', 'T']⟩, ⟨['L', 'L', 'T'], [⟨.probe, none, none, none, none, some true⟩, ⟨.backwall, none, none, none, some false, some false⟩, ⟨.frontwall, none, none, none, some true, some true⟩, ⟨.grid, none, none, none, some true, none⟩], [.block, .block, .block], ['L', 'L', 'T']⟩, ['T', 'T']⟩,
  ⟨.contact true true false, ['L', 'T'], ['T', 'L', 'T'], ⟨['L', 'T'], [⟨.probe, none, none, none, none, some true⟩, ⟨.backwall, none, none, none, some false, some false⟩, ⟨.grid, none, none, none, some true, none⟩], [.block, .block], ['L', 'T']⟩, ⟨['T', 'L', 'T'], [⟨.probe, none, none, none, none, some true⟩, ⟨.backwall, none, none, none, some false, some false⟩, ⟨.frontwall, none, none, none, some true, some true⟩, ⟨.grid, none, none, none, some true, none⟩], [.block, .block, .block], ['T', 'L', 'T']⟩, ['T', 'T']⟩,
  ⟨.contact true true false, ['L', 'T'], ['T', 'T', 'L'], ⟨['L', 'T'], [⟨.probe, none, none, none, none, some true⟩, ⟨.backwall, none, none, none, some false, some false⟩, ⟨.grid, none, none, none, some true, none⟩], [.block, .block], ['L', 'T']⟩, ⟨['L', 'T', 'T'], [⟨.probe, none, none, none, none, some true⟩, ⟨.backwall, none, none, none, some false, some false⟩, ⟨.frontwall, none, none, none, some true, some true⟩, ⟨.grid, none, none, none, some true, none⟩], [.block, .block, .block], ['L', 'T', 'T']⟩, ['T', 'T']⟩,
  ⟨.contact true true false, ['L', 'T'], ['T', 'T', 'T'], ⟨['L', 'T'], [⟨.probe, none, none, none, none, some true⟩, ⟨.backwall, none, none, none, some false, some false⟩, ⟨.grid, none, none, none, some true, none⟩], [.block, .block], ['L', 'T']⟩, ⟨['T', 'T', 'T'], [⟨.probe, none, none, none, none, some true⟩, ⟨.backwall, none, none, none, some false, some false⟩, ⟨.frontwall, none, none, none, some true, some true⟩, ⟨.grid, none, none, none, some true, none⟩], [.block, .block, .block], ['T', 'T', 'T']⟩, ['T', 'T']⟩,
  ⟨.contact true true false, ['T', 'L'], ['L', 'L', 'L'], ⟨['T', 'L'], [⟨.probe, none, none, none, none, some true⟩, ⟨.backwall, none, none, none, some false, some false⟩, ⟨.grid, none, none, none, some true, none⟩], [.block, .block], ['T', 'L']⟩, ⟨['L', 'L', 'L'], [⟨.probe, none, none, none, none, some true⟩, ⟨.backwall, none, none, none, some false, some false⟩, ⟨.frontwall, none, none, none, some true, some true⟩, ⟨.grid, none, none, none, some true, none⟩], [.block, .block, .block], ['L', 'L', 'L']⟩, ['L', 'L']⟩,
  ⟨.contact true true false, ['T', 'L'], ['L', 'L', 'T'], ⟨['T', 'L'], [⟨.probe, none, none, none, none, some true⟩, ⟨.backwall, none, none, none, some false, some false⟩, ⟨.grid, none, none, none, some true, none⟩], [.block, .block], ['T', 'L']⟩, ⟨['T', 'L', 'L'], [⟨.probe, none, none, none, none, some true⟩, ⟨.backwall, none, none, none, some false, some false⟩, ⟨.frontwall, none, none, none, some true, some true⟩, ⟨.grid, none, none, none, some true, none⟩], [.block, .block, .block], ['T', 'L', 'L']⟩, ['L', 'L']⟩,
  ⟨.contact true true false, ['T', 'L'], ['L', 'T', 'L'], ⟨['T', 'L'], [⟨.probe, none, none, none, none, some true⟩, ⟨.backwall, none, none, none, some false, some false⟩, ⟨.grid, none, none, none, some true, none⟩], [.block, .block], ['T', 'L']⟩, ⟨['L', 'T', 'L'], [⟨.probe, none, none, none, none, some true⟩, ⟨.backwall, none, none, none, some false, some false⟩, ⟨.frontwall, none, none, none, some true, some true⟩, ⟨.grid, none, none, none, some true, none⟩], [.block, .block, .block], ['L', 'T', 'L']⟩, ['L', 'L']⟩,
  ⟨.contact true true false, ['T', 'L'], ['L', 'T', 'T'], ⟨['T', 'L'], [⟨.probe, none, none, none, none, some true⟩, ⟨.backwall, none, none, none, some false, some false⟩, ⟨.grid, none, none, none, some true, none⟩], [.block, .block], ['T', 'L']⟩, ⟨['T', 'T', 'L'], [⟨.probe, none, none, none, none, some true⟩, ⟨.backwall, none, none, none, some false, some false⟩, ⟨.frontwall, none, none, none, some true, some true⟩, ⟨.grid, none, none, none, some true, none⟩], [.block, .block, .block], ['T', 'T', 'L']⟩, ['L', 'L']⟩,
  ⟨.contact true true false, ['T', 'L'], ['T', 'L', 'L'], ⟨['T', 'L'], [⟨.probe, none, none, none, none, some true⟩, ⟨.backwall, none, none, none, some false, some false⟩, ⟨.grid, none, none, none, some true, none⟩], [.block, .block], ['T', 'L']⟩, ⟨['L', 'L', 'T'], [⟨.probe, none, none, none, none, some true⟩, ⟨.backwall, none, none, none, some false, some false⟩, ⟨.frontwall, none, none, none, some true, some true⟩, ⟨.grid, none, none, none, some true, none⟩], [.block, .block, .block], ['L', 'L', 'T']⟩, ['L', 'T']⟩,
  ⟨.contact true true false, ['T', 'L'], ['T', 'L', 'T'], ⟨['T', 'L'], [⟨.probe, none, none, none, none, some true⟩, ⟨.backwall, none, none, none, some false, some false⟩, ⟨.grid, none, none, none, some true, none⟩], [.block, .block], ['T', 'L']⟩, ⟨['T', 'L', 'T'], [⟨.probe, none, none, none, none, some true⟩, ⟨.backwall, none, none, none, some false, some false⟩, ⟨.frontwall, none, none, none, some true, some true⟩, ⟨.grid, none, none, none, some true, none⟩], [.block, .block, .block], ['T', 'L', 'T']⟩, ['L', 'T']⟩,
  ⟨.contact true true false, ['T', 'L'], ['T', 'T', 'L'], ⟨['T', 'L'], [⟨.probe, none, none, none, none, some true⟩, ⟨.backwall, none, none, none, some false, some false⟩, ⟨.grid, none, none, none, some true, none⟩], [.block, .block], ['T', 'L']⟩, ⟨['L', 'T', 'T'], [⟨.probe, none, none, none, none, some true⟩, ⟨.backwall, none, none, none, some false, some false⟩, ⟨.frontwall, none, none, none, some true, some true⟩, ⟨.grid, none, none, none, some true, none⟩], [.block, .block, .block], ['L', 'T', 'T']⟩, ['L', 'T']⟩,
  ⟨.contact true true false, ['T', 'L'], ['T', 'T', 'T'], ⟨['T', 'L'], [⟨.probe, none, none, none, none, some true⟩, ⟨.backwall, none, none, none, some false, some false⟩, ⟨.grid, none, none, none, some true, none⟩], [.block, .block], ['T', 'L']⟩, ⟨['T', 'T', 'T'], [⟨.probe, none, none, none, none, some true⟩, ⟨.backwall, none, none, none, some false, some false⟩, ⟨.frontwall, none, none, none, some true, some true⟩, ⟨.grid, none, none, none, some true, none⟩], [.block, .block, .block], ['T', 'T', 'T']⟩, ['L', 'T']⟩,
  ⟨.contact true true false, ['T', 'T'], ['L', 'L', 'L'], ⟨['T', 'T'], [⟨.probe, none, none, none, none, some true⟩, ⟨.backwall, none, none, none, some false, some false⟩, ⟨.grid, none, none, none, some true, none⟩], [.block, .block], ['T', 'T']⟩, ⟨['L', 'L', 'L'], [⟨.probe, none, none, none, none, some true⟩, ⟨.backwall, none, none, none, some false, some false⟩, ⟨.frontwall, none, none, none, some true, some true⟩, ⟨.grid, none, none, none, some true, none⟩], [.block, .block, .block], ['L', 'L', 'L']⟩, ['T', 'L']⟩,
  ⟨.contact true true false, ['T', 'T'], ['L', 'L', 'T'], ⟨['T', 'T'], [⟨.probe, none, none, none, none, some true⟩, ⟨.backwall, none, none, none, some false, some false⟩, ⟨.grid, none, none, none, some true, none⟩], [.block, .block], ['T', 'T']⟩, ⟨['T', 'L', 'L'], [⟨.probe, none, none, none, none, some true⟩, ⟨.backwall, none, none, none, some false, some false⟩, ⟨.frontwall, none, none, none, some true, some true⟩, ⟨.grid, none, none, none, some true, none⟩], [.block, .block, .block], ['T', 'L', 'L']⟩, ['T', 'L']⟩,
  ⟨.contact true true false, ['T', 'T'], ['L', 'T', 'L'], ⟨['T', 'T'], [⟨.probe, none, none, none, none, some true⟩, ⟨.backwall, none, none, none, some false, some false⟩, ⟨.grid, none, none, none, some true, none⟩], [.block, .block], ['T', 'T']⟩, ⟨['L', 'T', 'L'], [⟨.probe, none, none, none, none, some true⟩, ⟨.backwall, none, none, none, some false, some false⟩, ⟨.frontwall, none, none, none, some true, some true⟩, ⟨.grid, none, none, none, some true, none⟩], [.block, .block, .block], ['L', 'T', 'L']⟩, ['T', 'L']⟩,
  ⟨.contact true true false, ['T', 'T'], ['L', 'T', 'T'], ⟨['T', 'T'], [⟨.probe, none, none, none, none, some true⟩, ⟨.backwall, none, none, none, some false, some false⟩, ⟨.grid, none, none, none, some true, none⟩], [.block, .block], ['T', 'T']⟩, ⟨['T', 'T', 'L'], [⟨.probe, none, none, none, none, some true⟩, ⟨.backwall, none, none, none, some false, some false⟩, ⟨.frontwall, none, none, none, some true, some true⟩, ⟨.grid, none, none, none, some true, none⟩], [.block, .block, .block], ['T', 'T', 'L']⟩, ['T', 'L']⟩
]

def table13 : List ViewEntry := [
  ⟨.contact true true false, ['T', 'T'], ['T', 'L', 'L'], ⟨['T', 'T'], [⟨.probe, none, none, none, none, some true⟩, ⟨.backwall, none, none, none, some false, some false⟩, ⟨.grid, none, none, none, some true, none⟩], [.block, .block], ['T', 'T']⟩, ⟨['L', 'L', 'T'], [⟨.probe, none, none, none, none, some true⟩, ⟨.backwall, none, none, none, some false, some false⟩, ⟨.frontwall, none, none, none, some true, some true⟩, ⟨.grid, none, none, none, some true, none⟩], [.block, .block, .block], ['L', 'L', 'T']⟩, ['T', 'T']⟩,
  ⟨.contact true true false, ['T', 'T'], ['T', 'L', 'T'], ⟨['T', 'T'], [⟨.probe, none, none, none, none, some true⟩, ⟨.backwall, none, none, none, some false, some false⟩, ⟨.grid, none, none, none, some true, none⟩], [.block, .block], ['T', 'T']⟩, ⟨['T', 'L', 'T'], [⟨.probe, none, none, none, none, some true⟩, ⟨.backwall, none, none, none, some false, some false⟩, ⟨.frontwall, none, none, none, some true, some true⟩, ⟨.grid, none, none, none, some true, none⟩], [.block, .block, .block], ['T', 'L', 'T']⟩, ['T', 'T']⟩,
  ⟨.contact true true false, ['T', 'T'], ['T', 'T', 'L'], ⟨['T', 'T'], [⟨.probe, none, none, none, none, some true⟩, ⟨.backwall, none, none, none, some false, some false⟩, ⟨.grid, none, none, none, some true, none⟩], [.block, .block], ['T', 'T']⟩, ⟨['L', 'T', 'T'], [⟨.probe, none, none, none, none, some true⟩, ⟨.backwall, none, none, none, some false, some false⟩, ⟨.frontwall, none, none, none, some true, some true⟩, ⟨.grid, none, none, none, some true, none⟩], [.block, .block, .block], ['L', 'T', 'T']⟩, ['T', 'T']⟩,
  ⟨.contact true true false, ['T', 'T'], ['T', 'T', 'T'], ⟨['T', 'T'], [⟨.probe, none, none, none, none, some true⟩, ⟨.backwall, none, none, none, some false, some false⟩, ⟨.grid, none, none, none, some true, none⟩], [.block, .block], ['T', 'T']⟩, ⟨['T', 'T', 'T'], [⟨.probe, none, none, none, none, some true⟩, ⟨.backwall, none, none, none, some false, some false⟩, ⟨.frontwall, none, none, none, some true, some true⟩, ⟨.grid, none, none, none, some true, none⟩], [.block, .block, .block], ['T', 'T', 'T']⟩, ['T', 'T']⟩,
  ⟨.contact true true false, ['L', 'L', 'L'], ['L', 'L', 'L'], ⟨['L', 'L', 'L'], [⟨.probe, none, none, none, none, some true⟩, ⟨.backwall, none, none, none, some false, some false⟩, ⟨.frontwall, none, none, none, some true, some true⟩, ⟨.grid, none, none, none, some true, none⟩], [.block, .block, .block], ['L', 'L', 'L']⟩, ⟨['L', 'L', 'L'], [⟨.probe, none, none, none, none, some true⟩, ⟨.backwall, none, none, none, some false, some false⟩, ⟨.frontwall, none, none, none, some true, some true⟩, ⟨.grid, none, none, none, some true, none⟩], [.block, .block, .block], ['L', 'L', 'L']⟩, ['L', 'L']⟩,
  ⟨.contact true true false, ['L', 'L', 'L'], ['L', 'L', 'T'], ⟨['L', 'L', 'L'], [⟨.probe, none, none, none, none, some true⟩, ⟨.backwall, none, none, none, some false, some false⟩, ⟨.frontwall, none, none, none, some true, some true⟩, ⟨.grid, none, none, none, some true, none⟩], [.block, .block, .block], ['L', 'L', 'L']⟩, ⟨['T', 'L', 'L'], [⟨.probe, none, none, none, none, some true⟩, ⟨.backwall, none, none, none, some false, some false⟩, ⟨.frontwall, none, none, none, some true, some true⟩, ⟨.grid, none, none, none, some true, none⟩], [.block, .block, .block], ['T', 'L', 'L']⟩, ['L', 'L']⟩,
  ⟨.contact true true false, ['L', 'L', 'L'], ['L', 'T', 'L'], ⟨['L', 'L', 'L'], [⟨.probe, none, none, none, none, some true⟩, ⟨.backwall, none, none, none, some false, some false⟩, ⟨.frontwall, none, none, none, some true, some true⟩, ⟨.grid, none, none, none, some true, none⟩], [.block, .block, .block], ['L', 'L', 'L']⟩, ⟨['L', 'T', 'L'], [⟨.probe, none, none, none, none, some true⟩, ⟨.backwall, none, none, none, some false, some false⟩, ⟨.frontwall, none, none, none, some true, some true⟩, ⟨.grid, none, none, none, some true, none⟩], [.block, .block, .block], ['L', 'T', 'L']⟩, ['L', 'L']⟩,
  ⟨.contact true true false, ['L', 'L', 'L'], ['L', 'T', 'T'], ⟨['L', 'L', 'L'], [⟨.probe, none, none, none, none, some true⟩, ⟨.backwall, none, none, none, some false, some false⟩, ⟨.frontwall, none, none, none, some true, some true⟩, ⟨.grid, none, none, none, some true, none⟩], [.block, .block, .block], ['L', 'L', 'L']⟩, ⟨['T', 'T', 'L'], [⟨.probe, none, none, none, none, some true⟩, ⟨.backwall, none, none, none, some false, some false⟩, ⟨.frontwall, none, none, none, some true, some true⟩, ⟨.grid, none, none, none, some true, none⟩], [.block, .block, .block], ['T', 'T', 'L']⟩, ['L', 'L']⟩,
  ⟨.contact true true false, ['L', 'L', 'L'], ['T', 'L', 'L'], ⟨['L', 'L', 'L'], [⟨.probe, none, none, none, none, some true⟩, ⟨.backwall, none, none, none, some false, some false⟩, ⟨.frontwall, none, none, none, some true, some true⟩, ⟨.grid, none, none, none, some true, none⟩], [.block, .block, .block], ['L', 'L', 'L']⟩, ⟨['L', 'L', 'T'], [⟨.probe, none, none, none, none, some true⟩, ⟨.backwall, none, none, none, some false, some false⟩, ⟨.frontwall, none, none, none, some true, some true⟩, ⟨.grid, none, none, none, some true, none⟩], [.block, .block, .block], ['L', 'L', 'T']⟩, ['L', 'T']⟩,
  ⟨.contact true true false, ['L', 'L', 'L'], ['T', 'L', 'T'], ⟨['L', 'L', 'L'], [⟨.probe, none, none, none, none, some true⟩, ⟨.backwall, none, none, none, some false, some false⟩, ⟨.frontwall, none, none, none, some true, some true⟩, ⟨.grid, none, none, none, some true, none⟩], [.block, .block, .block], ['L', 'L', 'L']⟩, ⟨['T', 'L', 'T'], [⟨.probe, none, none, none, none, some true⟩, ⟨.backwall, none, none, none, some false, some false⟩, ⟨.frontwall, none, none, none, some true, some true⟩, ⟨.grid, none, none, none, some true, none⟩], [.block, .block, .block], ['T', 'L', 'T']⟩, ['L', 'T']⟩,
  ⟨.contact true true false, ['L', 'L', 'L'], ['T', 'T', 'L'], ⟨['L', 'L', 'L'], [⟨.probe, none, none, none, none, some true⟩, ⟨.backwall, none, none, none, some false, some false⟩, ⟨.frontwall, none, none, none, some true, some true⟩, ⟨.grid, none, none, none, some true, none⟩], [.block, .block, .block], ['L', 'L', 'L']⟩, ⟨['L', 'T', 'T'], [⟨.probe, none, none, none, none, some true⟩, ⟨.backwall, none, none, none, some false, some false⟩, ⟨.frontwall, none, none, none, some true, some true⟩, ⟨.grid, none, none, none, some true, none⟩], [.block, .block, .block], ['L', 'T', 'T']⟩, ['L', 'T']⟩,
  ⟨.contact true true false, ['L', 'L', 'L'], ['T', 'T', 'T'], ⟨['L', 'L', 'L'], [⟨.probe, none, none, none, none, some true⟩, ⟨.backwall, none, none, none, some false, some false⟩, ⟨.frontwall, none, none, none, some true, some true⟩, ⟨.grid, none, none, none, some true, none⟩], [.block, .block, .block], ['L', 'L', 'L']⟩, ⟨['T', 'T', 'T'], [⟨.probe, none, none, none, none, some true⟩, ⟨.backwall, none, none, none, some false, some false⟩, ⟨.frontwall, none, none, none, some true, some true⟩, ⟨.grid, none, none, none, some true, none⟩], [.block, .block, .block], ['T', 'T', 'T']⟩, ['L', 'T']⟩,
  ⟨.contact true true false, ['L', 'L', 'T'], ['L', 'L', 'L'], ⟨['L', 'L', 'T'], [⟨.probe, none, none, none, none, some true⟩, ⟨.backwall, none, none, none, some false, some false⟩, ⟨.frontwall, none, none, none, some true, some true⟩, ⟨.grid, none, none, none, some true, none⟩], [.block, .block, .block], ['L', 'L', 'T']⟩, ⟨['L', 'L', 'L'], [⟨.probe, none, none, none, none, some true⟩, ⟨.backwall, none, none, none, some false, some false⟩, ⟨.frontwall, none, none, none, some true, some true⟩, ⟨.grid, none, none, none, some true, none⟩], [.block, .block, .block], ['L', 'L', 'L']⟩, ['T', 'L']⟩,
  ⟨.contact true true false, ['L', 'L', 'T'], ['L', 'L', 'T'], ⟨['L', 'L', 'T'], [⟨.probe, none, none, none, none, some true⟩, ⟨.backwall, none, none, none, some false, some false⟩, ⟨.frontwall, none, none, none, some true, some true⟩, ⟨.grid, none, none, none, some true, none⟩], [.block, .block, .block], ['L', 'L', 'T']⟩, ⟨['T', 'L', 'L'], [⟨.probe, none, none, none, none, some true⟩, ⟨.backwall, none, none, none, some false, some false⟩, ⟨.frontwall, none, none, none, some true, some true⟩, ⟨.grid, none, none, none, some true, none⟩], [.block, .block, .block], ['T', 'L', 'L']⟩, ['T', 'L']⟩,
  ⟨.contact true true false, ['L', 'L', 'T'], ['L', 'T', 'L'], ⟨['L', 'L', 'T'], [⟨.probe, none, none, none, none, some true⟩, ⟨.backwall, none, none, none, some false, some false⟩, ⟨.frontwall, none, none, none, some true, some true⟩, ⟨.grid, none, none, none, some true, none⟩], [.block, .block, .block], ['L', 'L', 'T']⟩, ⟨['L', 'T', 'L'], [⟨.probe, none, none, none, none, some true⟩, ⟨.backwall, none, none, none, some false, some false⟩, ⟨.frontwall, none, none, none, some true, some true⟩, ⟨.grid, none, none, none, some true, none⟩], [.block, .block, .block], ['L', 'T', 'L']⟩, ['T', 'L']⟩,
  ⟨.contact true true false, ['L', 'L', 'T'], ['L', 'T', 'T'], ⟨['L', 'L', 'T'], [⟨.probe, none, none, none, none, some true⟩, ⟨.backwall, none, none, none, some false, some false⟩, ⟨.frontwall, none, none, none, some true, some true⟩, ⟨.grid, none, none, none, some true, none⟩], [.block, .block, .block], ['L', 'L', 'T']⟩, ⟨['T', 'T', 'L'], [⟨.probe, none, none, none, none, some true⟩, ⟨.backwall, none, none, none, some false, some false⟩, ⟨.frontwall, none, none, none, some true, some true⟩, ⟨.grid, none, none, none, some true, none⟩], [.block, .block, .block], ['T', 'T', 'L']⟩, ['T', 'L']⟩,
  ⟨.contact true true false, ['L', 'L', 'T'], ['T', 'L', 'L'], ⟨['L', 'L', 'T'], [⟨.probe, none, none, none, none, some true⟩, ⟨.backwall, none, none, none, some false, some false⟩, ⟨.frontwall, none, none, none, some true, some true⟩, ⟨.grid, none, none, none, some true, none⟩], [.block, .block, .block], ['L', 'L', 'T']⟩, ⟨['L', 'L', 'T'], [⟨.probe, none, none, none, none, some true⟩, ⟨.backwall, none, none, none, some false, some false⟩, ⟨.frontwall, none, none, none, some true, some true⟩, ⟨.grid, none, none, none, some true, none⟩], [.block, .block, .block], ['L', 'L', 'T']⟩, ['T', 'T']⟩,
  ⟨.contact true true false, ['L', 'L', 'T'], ['T', 'L', 'T'], ⟨['L', 'L', 'T'], [⟨.probe, none, none, none, none, some true⟩, ⟨.backwall, none, none, none, some false, some false⟩, ⟨.frontwall, none, none, none, some true, some true⟩, ⟨.grid, none, none, none, some true, none⟩], [.block, .block, .block], ['L', 'L', 'T']⟩, ⟨['T', 'L', 'T'], [⟨.probe, none, none, none, none, some true⟩, ⟨.backwall, none, none, none, some false, some false⟩, ⟨.frontwall, none, none, none, some true, some true⟩, ⟨.grid, none, none, none, some true, none⟩], [.block, .block, .block], ['T', 'L', 'T']⟩, ['T', 'T']⟩,
  ⟨.contact true true false, ['L', 'L', 'T'], ['T', 'T', 'L'], ⟨['L', 'L', 'T'], [⟨.probe, none, none, none, none, some true⟩, ⟨.backwall, none, none, none, some false, some false⟩, ⟨.frontwall, none, none, none, some true, some true⟩, ⟨.grid, none, none, none, some true, none⟩], [.block, .block, .block], ['L', 'L', 'T']⟩, ⟨['L', 'T', 'T'], [⟨.probe, none, none, none, none, some true⟩, ⟨.backwall, none, none, none, some false, some false⟩, ⟨.frontwall, none, none, none, some true, some true⟩, ⟨.grid, none, none, none, some true, none⟩], [.block, .block, .block], ['L', 'T', 'T']⟩, ['T', 'T']⟩,
  ⟨.contact true true false, ['L', 'L', 'T'], ['T', 'T', 'T'], ⟨['L', 'L', 'T'], [⟨.probe, none, none, none, none, some true⟩, ⟨.backwall, none, none, none, some false, some false⟩, ⟨.frontwall, none, none, none, some true, some true⟩, ⟨.grid, none, none, none, some true, none⟩], [.block, .block, .block], ['L', 'L', 'T']⟩, ⟨['T', 'T', 'T'], [⟨.probe, none, none, none, none, some true⟩, ⟨.backwall, none, none, none, some false, some false⟩, ⟨.frontwall, none, none, none, some true, some true⟩, ⟨.grid, none, none, none, some true, none⟩], [.block, .block, .block], ['T', 'T', 'T']⟩, ['T', 'T']⟩,
  ⟨.contact true true false, ['L', 'T', 'L'], ['L', 'L', 'L'], ⟨['L', 'T', 'L'], [⟨.probe, none, none, none, none, some true⟩, ⟨.backwall, none, none, none, some false, some false⟩, ⟨.frontwall, none, none, none, some true, some true⟩, ⟨.grid, none, none, none, some true, none⟩], [.block, .block, .block], ['L', 'T', 'L']⟩, ⟨['L', 'L', 'L'], [⟨.probe, none, none, none, none, some true⟩, ⟨.backwall, none, none, none, some false, some false⟩, ⟨.frontwall, none, none, none, some true, some true⟩, ⟨.grid, none, none, none, some true, none⟩], [.block, .block, .block], ['L', 'L', 'L']⟩, ['L', 'L']⟩,
  ⟨.contact true true false, ['L', 'T', 'L'], ['L', 'L', 'T'], ⟨['L', 'T', 'L'], [⟨.probe, none, none, none, none, some true⟩, ⟨.backwall, none, none, none, some false, some false⟩, ⟨.frontwall, none, none, none, some true, some true⟩, ⟨.grid, none, none, none, some true, none⟩], [.block, .block, .block], ['L', 'T', 'L']⟩, ⟨['T', 'L', 'L'], [⟨.probe, none, none, none, none, some true⟩, ⟨.backwall, none, none, none, some false, some false⟩, ⟨.frontwall, none, none, none, some true, some true⟩, ⟨.grid, none, none, none, some true, none⟩], [.block, .block, .block], ['T', 'L', 'L']⟩, ['L', 'L']⟩,
  ⟨.contact true true false, ['L', 'T', 'L'], ['L', 'T', 'L'], ⟨['L', 'T', 'L'], [⟨.probe, none, none, none, none, some true⟩, ⟨.backwall, none, none, none, some false, some false⟩, ⟨.frontwall, none, none, none, some true, some true⟩, ⟨.grid, none, none, none, some true, none⟩], [.block, .block, .block], ['L', 'T', 'L']⟩, ⟨['L', 'T', 'L'], [⟨.probe, none, none, none, none, some true⟩, ⟨.backwall, none, none, none, some false, some false⟩, ⟨.frontwall, none, none, none, some true, some true⟩, ⟨.grid, none, none, none, some true, none⟩], [.block, .block, .block], ['L', 'T', 'L']⟩, ['L', 'L']⟩,
  ⟨.contact true true false, ['L', 'T', 'L'], ['L', 'T', 'T'], ⟨['L', 'T', 'L'], [⟨.probe, none, none, none, none, some true⟩, ⟨.backwall, none, none, none, some false, some false⟩, ⟨.frontwall, none, none, none, some true, some true⟩, ⟨.grid, none, none, none, some true, none⟩], [.block, .block, .block], ['L', 'T', 'L']⟩, ⟨['T', 'T', 'L'], [⟨.probe, none, none, none, none, some true⟩, ⟨.backwall, none, none, none, some false, some false⟩, ⟨.frontwall, none, none, none, some true, some true⟩, ⟨.grid, none, none, none, some true, none⟩], [.block, .block, .block], ['T', 'T', 'L']⟩, ['L', 'L']⟩,
  ⟨.contact true true false, ['L', 'T', 'L'], ['T', 'L', 'L'], ⟨['L', 'T', 'L'], [⟨.probe, none, none, none, none, some true⟩, ⟨.backwall, none, none, none, some false, some false⟩, ⟨.frontwall, none, none, none, some true, some true⟩, ⟨.grid, none, none, none, some true, none⟩], [.block, .block, .block], ['L', 'T', 'L']⟩, ⟨['L', 'L', 'T'], [⟨.probe, none, none, none, none, some true⟩, ⟨.backwall, none, none, none, some false, some false⟩, ⟨.frontwall, none, none, none, some true, some true⟩, ⟨.grid, none, none, none, some true, none⟩], [.block, .block, .block], ['L', 'L', 'T']⟩, ['L', 'T']⟩,
  ⟨.contact true true false, ['L', 'T', 'L'], ['T', 'L', 'T'], ⟨['L', 'T', 'L'], [⟨.probe, none, none, none, none, some true⟩, ⟨.backwall, none, none, none, some false, some false⟩, ⟨.frontwall, none, none, none, some true, some true⟩, ⟨.grid, none, none, none, some true, none⟩], [.block, .block, .block], ['L', 'T', 'L']⟩, ⟨['T', 'L', 'T'], [⟨.probe, none, none, none, none, some true⟩, ⟨.backwall, none, none, none, some false, some false⟩, ⟨.frontwall, none, none, none, some true, some true⟩, ⟨.grid, none, none, none, some true, none⟩], [.block, .block, .block], ['T', 'L', 'T']⟩, ['L', 'T']⟩,
  ⟨.contact true true false, ['L', 'T', 'L'], ['T', 'T', 'L'], ⟨['L', 'T', 'L'], [⟨.probe, none, none, none, none, some true⟩, ⟨.backwall, none, none, none, some false, some false⟩, ⟨.frontwall, none, none, none, some true, some true⟩, ⟨.grid, none, none, none, some true, none⟩], [.block, .block, .block], ['L', 'T', 'L']⟩, ⟨['L', 'T', 'T'], [⟨.probe, none, none, none, none, some true⟩, ⟨.backwall, none, none, none, some false, some false⟩, ⟨.frontwall, none, none, none, some true, some true⟩, ⟨.grid, none, none, none, some true, none⟩], [.block, .block, .block], ['L', 'T', 'T']⟩, ['L', 'T']⟩,
  ⟨.contact true true false, ['L', 'T', 'L'], ['T', 'T', 'T'], ⟨['L', 'T', 'L'], [⟨.probe, none, none, none, none, some true⟩, ⟨.backwall, none, none, none, some false, some false⟩, ⟨.frontwall, none, none, none, some true, some true⟩, ⟨.grid, none, none, none, some true, none⟩], [.block, .block, .block], ['L', 'T', 'L']⟩, ⟨['T', 'T', 'T'], [⟨.probe, none, none, none, none, some true⟩, ⟨.backwall, none, none, none, some false, some false⟩, ⟨.frontwall, none, none, none, some true, some true⟩, ⟨.grid, none, none, none, some true, none⟩], [.block, .block, .block], ['T', 'T', 'T']⟩, ['L', 'T']⟩,
  ⟨.contact true true false, ['L', 'T', 'T'], ['L', 'L', 'L'], ⟨['L', 'T', 'T'], [⟨.probe, none, none, none, none, some true⟩, ⟨.backwall, none, none, none, some false, some false⟩, ⟨.frontwall, none, none, none, some true, some true⟩, ⟨.grid, none, none, none, some true, none⟩], [.block, .block, .block], ['L', 'T', 'T']⟩, ⟨['L', 'L', 'L'], [⟨.probe, none, none, none, none, some true⟩, ⟨.backwall, none, none, none, some false, some false⟩, ⟨.frontwall, none, none, none, some true, some true⟩, ⟨.grid, none, none, none, some true, none⟩], [.block, .block, .block], ['L', 'L', 'L']⟩, ['T', 'L']⟩,
  ⟨.contact true true false, ['L', 'T', 'T'], ['L', 'L', 'T'], ⟨['L', 'T', 'T'], [⟨.probe, none, none, none, none, some true⟩, ⟨.backwall, none, none, none, some false, some false⟩, ⟨.frontwall, none, none, none, some true, some true⟩, ⟨.grid, none, none, none, some true, none⟩], [.block, .block, .block], ['L', 'T', 'T']⟩, ⟨['T', 'L', 'L'], [⟨.probe, none, none, none, none, some true⟩, ⟨.backwall, none, none, none, some false, some false⟩, ⟨.frontwall, none, none, none, some true, some true⟩, ⟨.grid, none, none, none, some true, none⟩], [.block, .block, .block], ['T', 'L', 'L']⟩, ['T', 'L']⟩,
  ⟨.contact true true false, ['L', 'T', 'T'], ['L', 'T', 'L'], ⟨['L', 'T', 'T'], [⟨.probe, none, none, none, none, some true⟩, ⟨.backwall, none, none, none, some false, some false⟩, ⟨.frontwall, none, none, none, some true, some true⟩, ⟨.grid, none, none, none, some true, none⟩], [.block, .block, .block], ['L', 'T', 'T']⟩, ⟨['L', 'T', 'L'], [⟨.probe, none, none, none, none, some true⟩, ⟨.backwall, none, none, none, some false, some false⟩, ⟨.frontwall, none, none, none, some true, some true⟩, ⟨.grid, none, none, none, some true, none⟩], [.block, .block, .block], ['L', 'T', 'L']⟩, ['T', 'L']⟩,
  ⟨.contact true true false, ['L', 'T', 'T'], ['L', 'T', 'T'], ⟨['L', 'T', 'T'], [⟨.probe, none, none, none, none, some true⟩, ⟨.backwall, none, none, none, some false, some false⟩, ⟨.frontwall, none, none, none, some true, some true⟩, ⟨.grid, none, none, none, some true, none⟩], [.block, .block, .block], ['L', 'T', 'T']⟩, ⟨['T', 'T', 'L'], [⟨.probe, none, none, none, none, some true⟩, ⟨.backwall, none, none, none, some false, some false⟩, ⟨.frontwall, none, none, none, some true, some true⟩, ⟨.grid, none, none, none, some true, none⟩], [.block, .block, .block], ['T', 'T', 'L']⟩, ['T', 'L']⟩,
  ⟨.contact true true false, ['L', 'T', 'T'], ['T', 'L', 'L'], ⟨['L', 'T', 'T'], [⟨.probe, none, none, none, none, some true⟩, ⟨.backwall, none, none, none, some false, some false⟩, ⟨.frontwall, none, none, none, some true, some true⟩, ⟨.grid, none, none, none, some true, none⟩], [.block, .block, .block], ['L', 'T', 'T']⟩, ⟨['L', 'L', 'T'], [⟨.probe, none, none, none, none, some true⟩, ⟨.backwall, none, none, none, some false, some false⟩, ⟨.frontwall, none, none, none, some true, some true⟩, ⟨.grid, none, none, none, some true, none⟩], [.block, .block, .block], ['L', 'L', 'T']⟩, ['T', 'T']⟩,
  ⟨.contact true true false, ['L', 'T', 'T'], ['T', 'L', 'T'], ⟨['L', 'T', 'T'], [⟨.probe, none, none, none, none, some true⟩, ⟨.backwall, none, none, none, some false, some false⟩, ⟨.frontwall, none, none, none, some true, some true⟩, ⟨.grid, none, none, none, some true, none⟩], [.block, .block, .block], ['L', 'T', 'T']⟩, ⟨['T', 'L', 'T'], [⟨.probe, none, none, none, none, some true⟩, ⟨.backwall, none, none, none, some false, some false⟩, ⟨.frontwall, none, none, none, some true, some true⟩, ⟨.grid, none, none, none, some true, none⟩], [.block, .block, .block], ['T', 'L', 'T']⟩, ['T', 'T']⟩,
  ⟨.contact true true false, ['L', 'T', 'T'], ['T', 'T', 'L'], ⟨['L', 'T', 'T'], [⟨.probe, none, none, none, none, some true⟩, ⟨.backwall, none, none, none, some false, some false⟩, ⟨.frontwall, none, none, none, some true, some true⟩, ⟨.grid, none, none, none, some true, none⟩], [.block, .block, .block], ['L', 'T', 'T']⟩, ⟨['L', 'T', 'T'], [⟨.probe, none, none, none, none, some true⟩, ⟨.backwall, none, none, none, some false, some false⟩, ⟨.frontwall, none, none, none, some true, some true⟩, ⟨.grid, none, none, none, some true, none⟩], [.block, .block, .block], ['L', 'T', 'T']⟩, ['T', 'T']⟩,
  ⟨.contact true true false, ['L', 'T', 'T'], ['T', 'T', 'T'], ⟨['L', 'T', 'T'], [⟨.probe, none, none, none, none, some true⟩, ⟨.backwall, none, none, none, some false, some false⟩, ⟨.frontwall, none, none, none, some true, some true⟩, ⟨.grid, none, none, none, some true, none⟩], [.block, .block, .block], ['L', 'T', 'T']⟩, ⟨['T', 'T', 'T'], [⟨.probe, none, none, none, none, some true⟩, ⟨.backwall, none, none, none, some false, some false⟩, ⟨.frontwall, none, none, none, some true, some true⟩, ⟨.grid, none, none, none, some true, none⟩], [.block, .block, .block], ['T', 'T', 'T']⟩, ['T', 'T']⟩,
  ⟨.contact true true false, ['T', 'L', 'L'], ['L', 'L', 'L'], ⟨['T', 'L', 'L'], [⟨.probe, none, none, none, none, some true⟩, ⟨.backwall, none, none, none, some false, some false⟩, ⟨.frontwall, none, none, none, some true, some true⟩, ⟨.grid, none, none, none, some true, none⟩], [.block, .block, .block], ['T', 'L', 'L']⟩, ⟨['L', 'L', 'L'], [⟨.probe, none, none, none, none, some true⟩, ⟨.backwall, none, none, none, some false, some false⟩, ⟨.frontwall, none, none, none, some true, some true⟩, ⟨.grid, none, none, none, some true, none⟩], [.block, .block, .block], ['L', 'L', 'L']⟩, ['L', 'L']⟩,
  ⟨.contact true true false, ['T', 'L', 'L'], ['L', 'L', 'T'], ⟨['T', 'L', 'L'], [⟨.probe, none, none, none, none, some true⟩, ⟨.backwall, none, none, none, some false, some false⟩, ⟨.frontwall, none, none, none, some true, some true⟩, ⟨.grid, none, none, none, some true, none⟩], [.block, .block, .block], ['T', 'L', 'L']⟩, ⟨['T', 'L', 'L'], [⟨.probe, none, none, none, none, some true⟩, ⟨.backwall, none, none, none, some false, some false⟩, ⟨.frontwall, none, none, none, some true, some true⟩, ⟨.grid, none, none, none, some true, none⟩], [.block, .block, .block], ['T', 'L', 'L']⟩, ['L', 'L']⟩,
  ⟨.contact true true false, ['T', 'L', 'L'], ['L', 'T', 'L'], ⟨['T', 'L', 'L'], [⟨.probe, none, none, none, none, some true⟩, ⟨.backwall, none, none, none, some false, some false⟩, ⟨.frontwall, none, none, none, some true, some true⟩, ⟨.grid, none, none, none, some true, none⟩], [.block, .block, .block], ['T', 'L', 'L']⟩, ⟨['L', 'T', 'L'], [⟨.probe, none, none, none, none, some true⟩, ⟨.backwall, none, none, none, some false, some false⟩, ⟨.frontwall, none, none, none, some true, some true⟩, ⟨.grid, none, none, none, some true, none⟩], [.block, .block, .block], ['L', 'T', 'L']⟩, ['L', 'L']⟩,
  ⟨.contact true true false, ['T', 'L', 'L'], ['L', 'T', 'T'], ⟨['T', 'L', 'L'], [⟨.probe, none, none, none, none, some true⟩, ⟨.backwall, none, none, none, some false, some false⟩, ⟨.frontwall, none, none, none, some true, some true⟩, ⟨.grid, none, none, none, some true, none⟩], [.block, .block, .block], ['T', 'L', 'L']⟩, ⟨['T', 'T', 'L'], [⟨.probe, none, none, none, none, some true⟩, ⟨.backwall, none, none, none, some false, some false⟩, ⟨.frontwall, none, none, none, some true, some true⟩, ⟨.grid, none, none, none, some true, none⟩], [.block, .block, .block], ['T', 'T', 'L']⟩, ['L', 'L']⟩
]

def table14 : List ViewEntry := [
  ⟨.contact true true false, ['T', 'L', 'L'], ['T', 'L', 'L'], ⟨['T', 'L', 'L'], [⟨.probe, none, none, none, none, some true⟩, ⟨.backwall, none, none, none, some false, some false⟩, ⟨.frontwall, none, none, none, some true, some true⟩, ⟨.grid, none, none, none, some true, none⟩], [.block, .block, .block], ['T', 'L', 'L']⟩, ⟨['L', 'L', 'T'], [⟨.probe, none, none, none, none, some true⟩, ⟨.backwall, none, none, none, some false, some false⟩, ⟨.frontwall, none, none, none, some true, some true⟩, ⟨.grid, none, none, none, some true, none⟩], [.block, .block, .block], ['L', 'L', 'T']⟩, ['L', 'T']⟩,
  ⟨.contact true true false, ['T', 'L', 'L'], ['T', 'L', 'T'], ⟨['T', 'L', 'L'], [⟨.probe, none, none, none, none, some true⟩, ⟨.backwall, none, none, none, some false, some false⟩, ⟨.frontwall, none, none, none, some true, some true⟩, ⟨.grid, none, none, none, some true, none⟩], [.block, .block, .block], ['T', 'L', 'L']⟩, ⟨['T', 'L', 'T'], [⟨.probe, none, none, none, none, some true⟩, ⟨.backwall, none, none, none, some false, some false⟩, ⟨.frontwall, none, none, none, some true, some true⟩, ⟨.grid, none, none, none, some true, none⟩], [.block, .block, .block], ['T', 'L', 'T']⟩, ['L', 'T']⟩,
  ⟨.contact true true false, ['T', 'L', 'L'], ['T', 'T', 'L'], ⟨['T', 'L', 'L'], [⟨.probe, none, none, none, none, some true⟩, ⟨.backwall, none, none, none, some false, some false⟩, ⟨.frontwall, none, none, none, some true, some true⟩, ⟨.grid, none, none, none, some true, none⟩], [.block, .block, .block], ['T', 'L', 'L']⟩, ⟨['L', 'T', 'T'], [⟨.probe, none, none, none, none, some true⟩, ⟨.backwall, none, none, none, some false, some false⟩, ⟨.frontwall, none, none, none, some true, some true⟩, ⟨.grid, none, none, none, some true, none⟩], [.block, .block, .block], ['L', 'T', 'T']⟩, ['L', 'T']⟩,
  ⟨.contact true true false, ['T', 'L', 'L'], ['T', 'T', 'T'], ⟨['T', 'L', 'L'], [⟨.probe, none, none, none, none, some true⟩, ⟨.backwall, none, none, none, some false, some false⟩, ⟨.frontwall, none, none, none, some true, some true⟩, ⟨.grid, none, none, none, some true, none⟩], [.block, .block, .block], ['T', 'L', 'L']⟩, ⟨['T', 'T', 'T'], [⟨.probe, none, none, none, none, some true⟩, ⟨.backwall, none, none, none, some false, some false⟩, ⟨.frontwall, none, none, none, some true, some true⟩, ⟨.grid, none, none, none, some true, none⟩], [.block, .block, .block], ['T', 'T', 'T']⟩, ['L', 'T']⟩,
  ⟨.contact true true false, ['T', 'L', 'T'], ['L', 'L', 'L'], ⟨['T', 'L', 'T'], [⟨.probe, none, none, none, none, some true⟩, ⟨.backwall, none, none, none, some false, some false⟩, ⟨.frontwall, none, none, none, some true, some true⟩, ⟨.grid, none, none, none, some true, none⟩], [.block, .block, .block], ['T', 'L', 'T']⟩, ⟨['L', 'L', 'L'], [⟨.probe, none, none, none, none, some true⟩, ⟨.backwall, none, none, none, some false, some false⟩, ⟨.frontwall, none, none, none, some true, some true⟩, ⟨.grid, none, none, none, some true, none⟩], [.block, .block, .block], ['L', 'L', 'L']⟩, ['T', 'L']⟩,
  ⟨.contact true true false, ['T', 'L', 'T'], ['L', 'L', 'T'], ⟨['T', 'L', 'T'], [⟨.probe, none, none, none, none, some true⟩, ⟨.backwall, none, none, none, some false, some false⟩, ⟨.frontwall, none, none, none, some true, some true⟩, ⟨.grid, none, none, none, some true, none⟩], [.block, .block, .block], ['T', 'L', 'T']⟩, ⟨['T', 'L', 'L'], [⟨.probe, none, none, none, none, some true⟩, ⟨.backwall, none, none, none, some false, some false⟩, ⟨.frontwall, none, none, none, some true, some true⟩, ⟨.grid, none, none, none, some true, none⟩], [.block, .block, .block], ['T', 'L', 'L']⟩, ['T', 'L']⟩,
  ⟨.contact true true false, ['T', 'L', 'T'], ['L', 'T', 'L'], ⟨['T', 'L', 'T'], [⟨.probe, none, none, none, none, some true⟩, ⟨.backwall, none, none, none, some false, some false⟩, ⟨.frontwall, none, none, none, some true, some true⟩, ⟨.grid, none, none, none, some true, none⟩], [.block, .block, .block], ['T', 'L', 'T']⟩, ⟨['L', 'T', 'L'], [⟨.probe, none, none, none, none, some true⟩, ⟨.backwall, none, none, none, some false, some false⟩, ⟨.frontwall, none, none, none, some true, some true⟩, ⟨.grid, none, none, none, some true, none⟩], [.block, .block, .block], ['L', 'T', 'L']⟩, ['T', 'L']⟩,
  ⟨.contact true true false, ['T', 'L', 'T'], ['L', 'T', 'T'], ⟨['T', 'L', 'T'], [⟨.probe, none, none, none, none, some true⟩, ⟨.backwall, none, none, none, some false, some false⟩, ⟨.frontwall, none, none, none, some true, some true⟩, ⟨.grid, none, none, none, some true, none⟩], [.block, .block, .block], ['T', 'L', 'T']⟩, ⟨['T', 'T', 'L'], [⟨.probe, none, none, none, none, some true⟩, ⟨.backwall, none, none, none, some false, some false⟩, ⟨.frontwall, none, none, none, some true, some true⟩, ⟨.grid, none, none, none, some true, none⟩], [.block, .block, .block], ['T', 'T', 'L']⟩, ['T', 'L']⟩,
  ⟨.contact true true false, ['T', 'L', 'T'], ['T', 'L', 'L'], ⟨['T', 'L', 'T'], [⟨.probe, none, none, none, none, some true⟩, ⟨.backwall, none, none, none, some false, some false⟩, ⟨.frontwall, none, none, none, some true, some true⟩, ⟨.grid, none, none, none, some true, none⟩], [.block, .block, .block], ['T', 'L', 'T']⟩, ⟨['L', 'L', 'T'], [⟨.probe, none, none, none, none, some true⟩, ⟨.backwall, none, none, none, some false, some false⟩, ⟨.frontwall, none, none, none, some true, some true⟩, ⟨.grid, none, none, none, some true, none⟩], [.block, .block, .block], ['L', 'L', 'T']⟩, ['T', 'T']⟩,
  ⟨.contact true true false, ['T', 'L', 'T'], ['T', 'L', 'T'], ⟨['T', 'L', 'T'], [⟨.probe, none, none, none, none, some true⟩, ⟨.backwall, none, none, none, some false, some false⟩, ⟨.frontwall, none, none, none, some true, some true⟩, ⟨.grid, none, none, none, some true, none⟩], [.block, .block, .block], ['T', 'L', 'T']⟩, ⟨['T', 'L', 'T'], [⟨.probe, none, none, none, none, some true⟩, ⟨.backwall, none, none, none, some false, some false⟩, ⟨.frontwall, none, none, none, some true, some true⟩, ⟨.grid, none, none, none, some true, none⟩], [.block, .block, .block], ['T', 'L', 'T']⟩, ['T', 'T']⟩,
  ⟨.contact true true false, ['T', 'L', 'T'], ['T', 'T', 'L'], ⟨['T', 'L', 'T'], [⟨.probe, none, none, none, none, some true⟩, ⟨.backwall, none, none, none, some false, some false⟩, ⟨.frontwall, none, none, none, some true, some true⟩, ⟨.grid, none, none, none, some true, none⟩], [.block, .block, .block], ['T', 'L', 'T']⟩, ⟨['L', 'T', 'T'], [⟨.probe, none, none, none, none, some true⟩, ⟨.backwall, none, none, none, some false, some false⟩, ⟨.frontwall, none, none, none, some true, some true⟩, ⟨.grid, none, none, none, some true, none⟩], [.block, .block, .block], ['L', 'T', 'T']⟩, ['T', 'T']⟩,
  ⟨.contact true true false, ['T', 'L', 'T'], ['T', 'T', 'T'], ⟨['T', 'L', 'T'], [⟨.probe, none, none, none, none, some true⟩, ⟨.backwall, none, none, none, some false, some false⟩, ⟨.frontwall, none, none, none, some true, some true⟩, ⟨.grid, none, none, none, some true, none⟩], [.block, .block, .block], ['T', 'L', 'T']⟩, ⟨['T', 'T', 'T'], [⟨.probe, none, none, none, none, some true⟩, ⟨.backwall, none, none, none, some false, some false⟩, ⟨.frontwall, none, none, none, some true, some true⟩, ⟨.grid, none, none, none, some true, none⟩], [.block, .block, .block], ['T', 'T', 'T']⟩, ['T', 'T']⟩,
  ⟨.contact true true false, ['T', 'T', 'L'], ['L', 'L', 'L'], ⟨['T', 'T', 'L'], [⟨.probe, none, none, none, none, some true⟩, ⟨.backwall, none, none, none, some false, some false⟩, ⟨.frontwall, none, none, none, some true, some true⟩, ⟨.grid, none, none, none, some true, none⟩], [.block, .block, .block], ['T', 'T', 'L']⟩, ⟨['L', 'L', 'L'], [⟨.probe, none, none, none, none, some true⟩, ⟨.backwall, none, none, none, some false, some false⟩, ⟨.frontwall, none, none, none, some true, some true⟩, ⟨.grid, none, none, none, some true, none⟩], [.block, .block, .block], ['L', 'L', 'L']⟩, ['L', 'L']⟩,
  ⟨.contact true true false, ['T', 'T', 'L'], ['L', 'L', 'T'], ⟨['T', 'T', 'L'], [⟨.probe, none, none, none, none, some true⟩, ⟨.backwall, none, none, none, some false, some false⟩, ⟨.frontwall, none, none, none, some true, some true⟩, ⟨.grid, none, none, none, some true, none⟩], [.block, .block, .block], ['T', 'T', 'L']⟩, ⟨['T', 'L', 'L'], [⟨.probe, none, none, none, none, some true⟩, ⟨.backwall, none, none, none, some false, some false⟩, ⟨.frontwall, none, none, none, some true, some true⟩, ⟨.grid, none, none, none, some true, none⟩], [.block, .block, .block], ['T', 'L', 'L']⟩, ['L', 'L']⟩,
  ⟨.contact true true false, ['T', 'T', 'L'], ['L', 'T', 'L'], ⟨['T', 'T', 'L'], [⟨.probe, none, none, none, none, some true⟩, ⟨.backwall, none, none, none, some false, some false⟩, ⟨.frontwall, none, none, none, some true, some true⟩, ⟨.grid, none, none, none, some true, none⟩], [.block, .block, .block], ['T', 'T', 'L']⟩, ⟨['L', 'T', 'L'], [⟨.probe, none, none, none, none, some true⟩, ⟨.backwall, none, none, none, some false, some false⟩, ⟨.frontwall, none, none, none, some true, some true⟩, ⟨.grid, none, none, none, some true, none⟩], [.block, .block, .block], ['L', 'T', 'L']⟩, ['L', 'L']⟩,
  ⟨.contact true true false, ['T', 'T', 'L'], ['L', 'T', 'T'], ⟨['T', 'T', 'L'], [⟨.probe, none, none, none, none, some true⟩, ⟨.backwall, none, none, none, some false, some false⟩, ⟨.frontwall, none, none, none, some true, some true⟩, ⟨.grid, none, none, none, some true, none⟩], [.block, .block, .block], ['T', 'T', 'L']⟩, ⟨['T', 'T', 'L'], [⟨.probe, none, none, none, none, some true⟩, ⟨.backwall, none, none, none, some false, some false⟩, ⟨.frontwall, none, none, none, some true, some true⟩, ⟨.grid, none, none, none, some true, none⟩], [.block, .block, .block], ['T', 'T', 'L']⟩, ['L', 'L']⟩,
  ⟨.contact true true false, ['T', 'T', 'L'], ['T', 'L', 'L'], ⟨['T', 'T', 'L'], [⟨.probe, none, none, none, none, some true⟩, ⟨.backwall, none, none, none, some false, some false⟩, ⟨.frontwall, none, none, none, some true, some true⟩, ⟨.grid, none, none, none, some true, none⟩], [.block, .block, .block], ['T', 'T', 'L']⟩, ⟨['L', 'L', 'T'], [⟨.probe, none, none, none, none, some true⟩, ⟨.backwall, none, none, none, some false, some false⟩, ⟨.frontwall, none, none, none, some true, some true⟩, ⟨.grid, none, none, none, some true, none⟩], [.block, .block, .block], ['L', 'L', 'T']⟩, ['L', 'T']⟩,
  ⟨.contact true true false, ['T', 'T', 'L'], ['T', 'L', 'T'], ⟨['T', 'T', 'L'], [⟨.probe, none, none, none, none, some true⟩, ⟨.backwall, none, none, none, some false, some false⟩, ⟨.frontwall, none, none, none, some true, some true⟩, ⟨.grid, none, none, none, some true, none⟩], [.block, .block, .block], ['T', 'T', 'L']⟩, ⟨['T', 'L', 'T'], [⟨.probe, none, none, none, none, some true⟩, ⟨.backwall, none, none, none, some false, some false⟩, ⟨.frontwall, none, none, none, some true, some true⟩, ⟨.grid, none, none, none, some true, none⟩], [.block, .block, .block], ['T', 'L', 'T']⟩, ['L', 'T']⟩,
  ⟨.contact true true false, ['T', 'T', 'L'], ['T', 'T', 'L'], ⟨['T', 'T', 'L'], [⟨.probe, none, none, none, none, some true⟩, ⟨.backwall, none, none, none, some false, some false⟩, ⟨.frontwall, none, none, none, some true, some true⟩, ⟨.grid, none, none, none, some true, none⟩], [.block, .block, .block], ['T', 'T', 'L']⟩, ⟨['L', 'T', 'T'], [⟨.probe, none, none, none, none, some true⟩, ⟨.backwall, none, none, none, some false, some false⟩, ⟨.frontwall, none, none, none, some true, some true⟩, ⟨.grid, none, none, none, some true, none⟩], [.block, .block, .block], ['L', 'T', 'T']⟩, ['L', 'T']⟩,
  ⟨.contact true true false, ['T', 'T', 'L'], ['T', 'T', 'T'], ⟨['T', 'T', 'L'], [⟨.probe, none, none, none, none, some true⟩, ⟨.backwall, none, none, none, some false, some false⟩, ⟨.frontwall, none, none, none, some true, some true⟩, ⟨.grid, none, none, none, some true, none⟩], [.block, .block, .block], ['T', 'T', 'L']⟩, ⟨['T', 'T', 'T'], [⟨.probe, none, none, none, none, some true⟩, ⟨.backwall, none, none, none, some false, some false⟩, ⟨.frontwall, none, none, none, some true, some true⟩, ⟨.grid, none, none, none, some true, none⟩], [.block, .block, .block], ['T', 'T', 'T']⟩, ['L', 'T']⟩,
  ⟨.contact true true false, ['T', 'T', 'T'], ['L', 'L', 'L'], ⟨['T', 'T', 'T'], [⟨.probe, none, none, none, none, some true⟩, ⟨.backwall, none, none, none, some false, some false⟩, ⟨.frontwall, none, none, none, some true, some true⟩, ⟨.grid, none, none, none, some true, none⟩], [.block, .block, .block], ['T', 'T', 'T']⟩, ⟨['L', 'L', 'L'], [⟨.probe, none, none, none, none, some true⟩, ⟨.backwall, none, none, none, some false, some false⟩, ⟨.frontwall, none, none, none, some true, some true⟩, ⟨.grid, none, none, none, some true, none⟩], [.block, .block, .block], ['L', 'L', 'L']⟩, ['T', 'L']⟩,
  ⟨.contact true true false, ['T', 'T', 'T'], ['L', 'L', 'T'], ⟨['T', 'T', 'T'], [⟨.probe, none, none, none, none, some true⟩, ⟨.backwall, none, none, none, some false, some false⟩, ⟨.frontwall, none, none, none, some true, some true⟩, ⟨.grid, none, none, none, some true, none⟩], [.block, .block, .block], ['T', 'T', 'T']⟩, ⟨['T', 'L', 'L'], [⟨.probe, none, none, none, none, some true⟩, ⟨.backwall, none, none, none, some false, some false⟩, ⟨.frontwall, none, none, none, some true, some true⟩, ⟨.grid, none, none, none, some true, none⟩], [.block, .block, .block], ['T', 'L', 'L']⟩, ['T', 'L']⟩,
  ⟨.contact true true false, ['T', 'T', 'T'], ['L', 'T', 'L'], ⟨['T', 'T', 'T'], [⟨.probe, none, none, none, none, some true⟩, ⟨.backwall, none, none, none, some false, some false⟩, ⟨.frontwall, none, none, none, some true, some true⟩, ⟨.grid, none, none, none, some true, none⟩], [.block, .block, .block], ['T', 'T', 'T']⟩, ⟨['L', 'T', 'L'], [⟨.probe, none, none, none, none, some true⟩, ⟨.backwall, none, none, none, some false, some false⟩, ⟨.frontwall, none, none, none, some true, some true⟩, ⟨.grid, none, none, none, some true, none⟩], [.block, .block, .block], ['L', 'T', 'L']⟩, ['T', 'L']⟩,
  ⟨.contact true true false, ['T', 'T', 'T'], ['L', 'T', 'T'], ⟨['T', 'T', 'T'], [⟨.probe, none, none, none, none, some true⟩, ⟨.backwall, none, none, none, some false, some false⟩, ⟨.frontwall, none, none, none, some true, some true⟩, ⟨.grid, none, none, none, some true, none⟩], [.block, .block, .block], ['T', 'T', 'T']⟩, ⟨['T', 'T', 'L'], [⟨.probe, none, none, none, none, some true⟩, ⟨.backwall, none, none, none, some false, some false⟩, ⟨.frontwall, none, none, none, some true, some true⟩, ⟨.grid, none, none, none, some true, none⟩], [.block, .block, .block], ['T', 'T', 'L']⟩, ['T', 'L']⟩,
  ⟨.contact true true false, ['T', 'T', 'T'], ['T', 'L', 'L'], ⟨['T', 'T', 'T'], [⟨.probe, none, none, none, none, some true⟩, ⟨.backwall, none, none, none, some false, some false⟩, ⟨.frontwall, none, none, none, some true, some true⟩, ⟨.grid, none, none, none, some true, none⟩], [.block, .block, .block], ['T', 'T', 'T']⟩, ⟨['L', 'L', 'T'], [⟨.probe, none, none, none, none, some true⟩, ⟨.backwall, none, none, none, some false, some false⟩, ⟨.frontwall, none, none, none, some true, some true⟩, ⟨.grid, none, none, none, some true, none⟩], [.block, .block, .block], ['L', 'L', 'T']⟩, ['T', 'T']⟩,
  ⟨.contact true true false, ['T', 'T', 'T'], ['T', 'L', 'T'], ⟨['T', 'T', 'T'], [⟨.probe, none, none, none, none, some true⟩, ⟨.backwall, none, none, none, some false, some false⟩, ⟨.frontwall, none, none, none, some true, some true⟩, ⟨.grid, none, none, none, some true, none⟩], [.block, .block, .block], ['T', 'T', 'T']⟩, ⟨['T', 'L', 'T'], [⟨.probe, none, none, none, none, some true⟩, ⟨.backwall, none, none, none, some false, some false⟩, ⟨.frontwall, none, none, none, some true, some true⟩, ⟨.grid, none, none, none, some true, none⟩], [.block, .block, .block], ['T', 'L', 'T']⟩, ['T', 'T']⟩,
  ⟨.contact true true false, ['T', 'T', 'T'], ['T', 'T', 'L'], ⟨['T', 'T', 'T'], [⟨.probe, none, none, none, none, some true⟩, ⟨.backwall, none, none, none, some false, some false⟩, ⟨.frontwall, none, none, none, some true, some true⟩, ⟨.grid, none, none, none, some true, none⟩], [.block, .block, .block], ['T', 'T', 'T']⟩, ⟨['L', 'T', 'T'], [⟨.probe, none, none, none, none, some true⟩, ⟨.backwall, none, none, none, some false, some false⟩, ⟨.frontwall, none, none, none, some true, some true⟩, ⟨.grid, none, none, none, some true, none⟩], [.block, .block, .block], ['L', 'T', 'T']⟩, ['T', 'T']⟩,
  ⟨.contact true true false, ['T', 'T', 'T'], ['T', 'T', 'T'], ⟨['T', 'T', 'T'], [⟨.probe, none, none, none, none, some true⟩, ⟨.backwall, none, none, none, some false, some false⟩, ⟨.frontwall, none, none, none, some true, some true⟩, ⟨.grid, none, none, none, some true, none⟩], [.block, .block, .block], ['T', 'T', 'T']⟩, ⟨['T', 'T', 'T'], [⟨.probe, none, none, none, none, some true⟩, ⟨.backwall, none, none, none, some false, some false⟩, ⟨.frontwall, none, none, none, some true, some true⟩, ⟨.grid, none, none, none, some true, none⟩], [.block, .block, .block], ['T', 'T', 'T']⟩, ['T', 'T']⟩,
  ⟨.contact true false true, ['L'], ['L'], ⟨['L'], [⟨.probe, none, none, none, none, some true⟩, ⟨.grid, none, none, none, some true, none⟩], [.block], ['L']⟩, ⟨['L'], [⟨.probe, none, none, none, none, some true⟩, ⟨.grid, none, none, none, some true, none⟩], [.block], ['L']⟩, ['L', 'L']⟩,
  ⟨.contact true false true, ['L'], ['T'], ⟨['L'], [⟨.probe, none, none, none, none, some true⟩, ⟨.grid, none, none, none, some true, none⟩], [.block], ['L']⟩, ⟨['T'], [⟨.probe, none, none, none, none, some true⟩, ⟨.grid, none, none, none, some true, none⟩], [.block], ['T']⟩, ['L', 'T']⟩,
  ⟨.contact true false true, ['T'], ['L'], ⟨['T'], [⟨.probe, none, none, none, none, some true⟩, ⟨.grid, none, none, none, some true, none⟩], [.block], ['T']⟩, ⟨['L'], [⟨.probe, none, none, none, none, some true⟩, ⟨.grid, none, none, none, some true, none⟩], [.block], ['L']⟩, ['T', 'L']⟩,
  ⟨.contact true false true, ['T'], ['T'], ⟨['T'], [⟨.probe, none, none, none, none, some true⟩, ⟨.grid, none, none, none, some true, none⟩], [.block], ['T']⟩, ⟨['T'], [⟨.probe, none, none, none, none, some true⟩, ⟨.grid, none, none, none, some true, none⟩], [.block], ['T']⟩, ['T', 'T']⟩,
  ⟨.contact true false true, ['L', 'L'], ['L'], ⟨['L', 'L'], [⟨.probe, none, none, none, none, some true⟩, ⟨.backwall, some .solidFluid, some .reflection, some .under, some false, some false⟩, ⟨.grid, none, none, none, some true, none⟩], [.block, .block], ['L', 'L']⟩, ⟨['L'], [⟨.probe, none, none, none, none, some true⟩, ⟨.grid, none, none, none, some true, none⟩], [.block], ['L']⟩, ['L', 'L']⟩,
  ⟨.contact true false true, ['L', 'L'], ['T'], ⟨['L', 'L'], [⟨.probe, none, none, none, none, some true⟩, ⟨.backwall, some .solidFluid, some .reflection, some .under, some false, some false⟩, ⟨.grid, none, none, none, some true, none⟩], [.block, .block], ['L', 'L']⟩, ⟨['T'], [⟨.probe, none, none, none, none, some true⟩, ⟨.grid, none, none, none, some true, none⟩], [.block], ['T']⟩, ['L', 'T']⟩,
  ⟨.contact true false true, ['L', 'T'], ['L'], ⟨['L', 'T'], [⟨.probe, none, none, none, none, some true⟩, ⟨.backwall, some .solidFluid, some .reflection, some .under, some false, some false⟩, ⟨.grid, none, none, none, some true, none⟩], [.block, .block], ['L', 'T']⟩, ⟨['L'], [⟨.probe, none, none, none, none, some true⟩, ⟨.grid, none, none, none, some true, none⟩], [.block], ['L']⟩, ['T', 'L']⟩,
  ⟨.contact true false true, ['L', 'T'], ['T'], ⟨['L', 'T'], [⟨.probe, none, none, none, none, some true⟩, ⟨.backwall, some .solidFluid, some .reflection, some .under, some false, some false⟩, ⟨.grid, none, none, none, some true, none⟩], [.block, .block], ['L', 'T']⟩, ⟨['T'], [⟨.probe, none, none, none, none, some true⟩, ⟨.grid, none, none, none, some true, none⟩], [.block], ['T']⟩, ['T', 'T']⟩,
  ⟨.contact true false true, ['T', 'L'], ['L'], ⟨['T', 'L'], [⟨.probe, none, none, none, none, some true⟩, ⟨.backwall, some .solidFluid, some .reflection, some .under, some false, some false⟩, ⟨.grid, none, none, none, some true, none⟩], [.block, .block], ['T', 'L']⟩, ⟨['L'], [⟨.probe, none, none, none, none, some true⟩, ⟨.grid, none, none, none, some true, none⟩], [.block], ['L']⟩, ['L', 'L']⟩,
  ⟨.contact true false true, ['T', 'L'], ['T'], ⟨['T', 'L'], [⟨.probe, none, none, none, none, some true⟩, ⟨.backwall, some .solidFluid, some .reflection, some .under, some false, some false⟩, ⟨.grid, none, none, none, some true, none⟩], [.block, .block], ['T', 'L']⟩, ⟨['T'], [⟨.probe, none, none, none, none, some true⟩, ⟨.grid, none, none, none, some true, none⟩], [.block], ['T']⟩, ['L', 'T']⟩,
  ⟨.contact true false true, ['T', 'T'], ['L'], ⟨['T', 'T'], [⟨.probe, none, none, none, none, some true⟩, ⟨.backwall, some .solidFluid, some .reflection, some .under, some false, some false⟩, ⟨.grid, none, none, none, some true, none⟩], [.block, .block], ['T', 'T']⟩, ⟨['L'], [⟨.probe, none, none, none, none, some true⟩, ⟨.grid, none, none, none, some true, none⟩], [.block], ['L']⟩, ['T', 'L']⟩,
  ⟨.contact true false true, ['T', 'T'], ['T'], ⟨['T', 'T'], [⟨.probe, none, none, none, none, some true⟩, ⟨.backwall, some .solidFluid, some .reflection, some .under, some false, some false⟩, ⟨.grid, none, none, none, some true, none⟩], [.block, .block], ['T', 'T']⟩, ⟨['T'], [⟨.probe, none, none, none, none, some true⟩, ⟨.grid, none, none, none, some true, none⟩], [.block], ['T']⟩, ['T', 'T']⟩
]

def table15 : List ViewEntry := [
  ⟨.contact true false true, ['L'], ['L', 'L'], ⟨['L'], [⟨.probe, none, none, none, none, some true⟩, ⟨.grid, none, none, none, some true, none⟩], [.block], ['L']⟩, ⟨['L', 'L'], [⟨.probe, none, none, none, none, some true⟩, ⟨.backwall, some .solidFluid, some .reflection, some .under, some false, some false⟩, ⟨.grid, none, none, none, some true, none⟩], [.block, .block], ['L', 'L']⟩, ['L', 'L']⟩,
  ⟨.contact true false true, ['L'], ['L', 'T'], ⟨['L'], [⟨.probe, none, none, none, none, some true⟩, ⟨.grid, none, none, none, some true, none⟩], [.block], ['L']⟩, ⟨['T', 'L'], [⟨.probe, none, none, none, none, some true⟩, ⟨.backwall, some .solidFluid, some .reflection, some .under, some false, some false⟩, ⟨.grid, none, none, none, some true, none⟩], [.block, .block], ['T', 'L']⟩, ['L', 'L']⟩,
  ⟨.contact true false true, ['L'], ['T', 'L'], ⟨['L'], [⟨.probe, none, none, none, none, some true⟩, ⟨.grid, none, none, none, some true, none⟩], [.block], ['L']⟩, ⟨['L', 'T'], [⟨.probe, none, none, none, none, some true⟩, ⟨.backwall, some .solidFluid, some .reflection, some .under, some false, some false⟩, ⟨.grid, none, none, none, some true, none⟩], [.block, .block], ['L', 'T']⟩, ['L', 'T']⟩,
  ⟨.contact true false true, ['L'], ['T', 'T'], ⟨['L'], [⟨.probe, none, none, none, none, some true⟩, ⟨.grid, none, none, none, some true, none⟩], [.block], ['L']⟩, ⟨['T', 'T'], [⟨.probe, none, none, none, none, some true⟩, ⟨.backwall, some .solidFluid, some .reflection, some .under, some false, some false⟩, ⟨.grid, none, none, none, some true, none⟩], [.block, .block], ['T', 'T']⟩, ['L', 'T']⟩,
  ⟨.contact true false true, ['T'], ['L', 'L'], ⟨['T'], [⟨.probe, none, none, none, none, some true⟩, ⟨.grid, none, none, none, some true, none⟩], [.block], ['T']⟩, ⟨['L', 'L'], [⟨.probe, none, none, none, none, some true⟩, ⟨.backwall, some .solidFluid, some .reflection, some .under, some false, some false⟩, ⟨.grid, none, none, none, some true, none⟩], [.block, .block], ['L', 'L']⟩, ['T', 'L']⟩,
  ⟨.contact true false true, ['T'], ['L', 'T'], ⟨['T'], [⟨.probe, none, none, none, none, some true⟩, ⟨.grid, none, none, none, some true, none⟩], [.block], ['T']⟩, ⟨['T', 'L'], [⟨.probe, none, none, none, none, some true⟩, ⟨.backwall, some .solidFluid, some .reflection, some .under, some false, some false⟩, ⟨.grid, none, none, none, some true, none⟩], [.block, .block], ['T', 'L']⟩, ['T', 'L']⟩,
  ⟨.contact true false true, ['T'], ['T', 'L'], ⟨['T'], [⟨.probe, none, none, none, none, some true⟩, ⟨.grid, none, none, none, some true, none⟩], [.block], ['T']⟩, ⟨['L', 'T'], [⟨.probe, none, none, none, none, some true⟩, ⟨.backwall, some .solidFluid, some .reflection, some .under, some false, some false⟩, ⟨.grid, none, none, none, some true, none⟩], [.block, .block], ['L', 'T']⟩, ['T', 'T']⟩,
  ⟨.contact true false true, ['T'], ['T', 'T'], ⟨['T'], [⟨.probe, none, none, none, none, some true⟩, ⟨.grid, none, none, none, some true, none⟩], [.block], ['T']⟩, ⟨['T', 'T'], [⟨.probe, none, none, none, none, some true⟩, ⟨.backwall, some .solidFluid, some .reflection, some .under, some false, some false⟩, ⟨.grid, none, none, none, some true, none⟩], [.block, .block], ['T', 'T']⟩, ['T', 'T']⟩,
  ⟨.contact true false true, ['L', 'L'], ['L', 'L'], ⟨['L', 'L'], [⟨.probe, none, none, none, none, some true⟩, ⟨.backwall, some .solidFluid, some .reflection, some .under, some false, some false⟩, ⟨.grid, none, none, none, some true, none⟩], [.block, .block], ['L', 'L']⟩, ⟨['L', 'L'], [⟨.probe, none, none, none, none, some true⟩, ⟨.backwall, some .solidFluid, some .reflection, some .under, some false, some false⟩, ⟨.grid, none, none, none, some true, none⟩], [.block, .block], ['L', 'L']⟩, ['L', 'L']⟩,
  ⟨.contact true false true, ['L', 'L'], ['L', 'T'], ⟨['L', 'L'], [⟨.probe, none, none, none, none, some true⟩, ⟨.backwall, some .solidFluid, some .reflection, some .under, some false, some false⟩, ⟨.grid, none, none, none, some true, none⟩], [.block, .block], ['L', 'L']⟩, ⟨['T', 'L'], [⟨.probe, none, none, none, none, some true⟩, ⟨.backwall, some .solidFluid, some .reflection, some .under, some false, some false⟩, ⟨.grid, none, none, none, some true, none⟩], [.block, .block], ['T', 'L']⟩, ['L', 'L']⟩,
  ⟨.contact true false true, ['L', 'L'], ['T', 'L'], ⟨['L', 'L'], [⟨.probe, none, none, none, none, some true⟩, ⟨.backwall, some .solidFluid, some .reflection, some .under, some false, some false⟩, ⟨.grid, none, none, none, some true, none⟩], [.block, .block], ['L', 'L']⟩, ⟨['L', 'T'], [⟨.probe, none, none, none, none, some true⟩, ⟨.backwall, some .solidFluid, some .reflection, some .under, some false, some false⟩, ⟨.grid, none, none, none, some true, none⟩], [.block, .block], ['L', 'T']⟩, ['L', 'T']⟩,
  ⟨.contact true false true, ['L', 'L'], ['T', 'T'], ⟨['L', 'L'], [⟨.probe, none, none, none, none, some true⟩, ⟨.backwall, some .solidFluid, some .reflection, some .under, some false, some false⟩, ⟨.grid, none, none, none, some true, none⟩], [.block, .block], ['L', 'L']⟩, ⟨['T', 'T'], [⟨.probe, none, none, none, none, some true⟩, ⟨.backwall, some .solidFluid, some .reflection, some .under, some false, some false⟩, ⟨.grid, none, none, none, some true, none⟩], [.block, .block], ['T', 'T']⟩, ['L', 'T']⟩,
  ⟨.contact true false true, ['L', 'T'], ['L', 'L'], ⟨['L', 'T'], [⟨.probe, none, none, none, none, some true⟩, ⟨.backwall, some .solidFluid, some .reflection, some .under, some false, some false⟩, ⟨.grid, none, none, none, some true, none⟩], [.block, .block], ['L', 'T']⟩, ⟨['L', 'L'], [⟨.probe, none, none, none, none, some true⟩, ⟨.backwall, some .solidFluid, some .reflection, some .under, some false, some false⟩, ⟨.grid, none, none, none, some true, none⟩], [.block, .block], ['L', 'L']⟩, ['T', 'L']⟩,
  ⟨.contact true false true, ['L', 'T'], ['L', 'T'], ⟨['L', 'T'], [⟨.probe, none, none, none, none, some true⟩, ⟨.backwall, some .solidFluid, some .reflection, some .under, some false, some false⟩, ⟨.grid, none, none, none, some true, none⟩], [.block, .block], ['L', 'T']⟩, ⟨['T', 'L'], [⟨.probe, none, none, none, none, some true⟩, ⟨.backwall, some .solidFluid, some .reflection, some .under, some false, some false⟩, ⟨.grid, none, none, none, some true, none⟩], [.block, .block], ['T', 'L']⟩, ['T', 'L']⟩,
  ⟨.contact true false true, ['L', 'T'], ['T', 'L'], ⟨['L', 'T'], [⟨.probe, none, none, none, none, some true⟩, ⟨.backwall, some .solidFluid, some .reflection, some .under, some false, some false⟩, ⟨.grid, none, none, none, some true, none⟩], [.block, .block], ['L', 'T']⟩, ⟨['L', 'T'], [⟨.probe, none, none, none, none, some true⟩, ⟨.backwall, some .solidFluid, some .reflection, some .under, some false, some false⟩, ⟨.grid, none, none, none, some true, none⟩], [.block, .block], ['L', 'T']⟩, ['T', 'T']⟩,
  ⟨.contact true false true, ['L', 'T'], ['T', 'T'], ⟨['L', 'T'], [⟨.probe, none, none, none, none, some true⟩, ⟨.backwall, some .solidFluid, some .reflection, some .under, some false, some false⟩, ⟨.grid, none, none, none, some true, none⟩], [.block, .block], ['L', 'T']⟩, ⟨['T', 'T'], [⟨.probe, none, none, none, none, some true⟩, ⟨.backwall, some .solidFluid, some .reflection, some .under, some false, some false⟩, ⟨.grid, none, none, none, some true, none⟩], [.block, .block], ['T', 'T']⟩, ['T', 'T']⟩,
  ⟨.contact true false true, ['T', 'L'], ['L', 'L'], ⟨['T', 'L'], [⟨.probe, none, none, none, none, some true⟩, ⟨.backwall, some .solidFluid, some .reflection, some .under, some false, some false⟩, ⟨.grid, none, none, none, some true, none⟩], [.block, .block], ['T', 'L']⟩, ⟨['L', 'L'], [⟨.probe, none, none, none, none, some true⟩, ⟨.backwall, some .solidFluid, some .reflection, some .under, some false, some false⟩, ⟨.grid, none, none, none, some true, none⟩], [.block, .block], ['L', 'L']⟩, ['L', 'L']⟩,
  ⟨.contact true false true, ['T', 'L'], ['L', 'T'], ⟨['T', 'L'], [⟨.probe, none, none, none, none, some true⟩, ⟨.backwall, some .solidFluid, some .reflection, some .under, some false, some false⟩, ⟨.grid, none, none, none, some true, none⟩], [.block, .block], ['T', 'L']⟩, ⟨['T', 'L'], [⟨.probe, none, none, none, none, some true⟩, ⟨.backwall, some .solidFluid, some .reflection, some .under, some false, some false⟩, ⟨.grid, none, none, none, some true, none⟩], [.block, .block], ['T', 'L']⟩, ['L', 'L']⟩,
  ⟨.contact true false true, ['T', 'L'], ['T', 'L'], ⟨['T', 'L'], [⟨.probe, none, none, none, none, some true⟩, ⟨.backwall, some .solidFluid, some .reflection, some .under, some false, some false⟩, ⟨.grid, none, none, none, some true, none⟩], [.block, .block], ['T', 'L']⟩, ⟨['L', 'T'], [⟨.probe, none, none, none, none, some true⟩, ⟨.backwall, some .solidFluid, some .reflection, some .under, some false, some false⟩, ⟨.grid, none, none, none, some true, none⟩], [.block, .block], ['L', 'T']⟩, ['L', 'T']⟩,
  ⟨.contact true false true, ['T', 'L'], ['T', 'T'], ⟨['T', 'L'], [⟨.probe, none, none, none, none, some true⟩, ⟨.backwall, some .solidFluid, some .reflection, some .under, some false, some false⟩, ⟨.grid, none, none, none, some true, none⟩], [.block, .block], ['T', 'L']⟩, ⟨['T', 'T'], [⟨.probe, none, none, none, none, some true⟩, ⟨.backwall, some .solidFluid, some .reflection, some .under, some false, some false⟩, ⟨.grid, none, none, none, some true, none⟩], [.block, .block], ['T', 'T']⟩, ['L', 'T']⟩,
  ⟨.contact true false true, ['T', 'T'], ['L', 'L'], ⟨['T', 'T'], [⟨.probe, none, none, none, none, some true⟩, ⟨.backwall, some .solidFluid, some .reflection, some .under, some false, some false⟩, ⟨.grid, none, none, none, some true, none⟩], [.block, .block], ['T', 'T']⟩, ⟨['L', 'L'], [⟨.probe, none, none, none, none, some true⟩, ⟨.backwall, some .solidFluid, some .reflection, some .under, some false, some false⟩, ⟨.grid, none, none, none, some true, none⟩], [.block, .block], ['L', 'L']⟩, ['T', 'L']⟩,
  ⟨.contact true false true, ['T', 'T'], ['L', 'T'], ⟨['T', 'T'], [⟨.probe, none, none, none, none, some true⟩, ⟨.backwall, some .solidFluid, some .reflection, some .under, some false, some false⟩, ⟨.grid, none, none, none, some true, none⟩], [.block, .block], ['T', 'T']⟩, ⟨['T', 'L'], [⟨.probe, none, none, none, none, some true⟩, ⟨.backwall, some .solidFluid, some .reflection, some .under, some false, some false⟩, ⟨.grid, none, none, none, some true, none⟩], [.block, .block], ['T', 'L']⟩, ['T', 'L']⟩,
  ⟨.contact true false true, ['T', 'T'], ['T', 'L'], ⟨['T', 'T'], [⟨.probe, none, none, none, none, some true⟩, ⟨.backwall, some .solidFluid, some .reflection, some .under, some false, some false⟩, ⟨.grid, none, none, none, some true, none⟩], [.block, .block], ['T', 'T']⟩, ⟨['L', 'T'], [⟨.probe, none, none, none, none, some true⟩, ⟨.backwall, some .solidFluid, some .reflection, some .under, some false, some false⟩, ⟨.grid, none, none, none, some true, none⟩], [.block, .block], ['L', 'T']⟩, ['T', 'T']⟩,
  ⟨.contact true false true, ['T', 'T'], ['T', 'T'], ⟨['T', 'T'], [⟨.probe, none, none, none, none, some true⟩, ⟨.backwall, some .solidFluid, some .reflection, some .under, some false, some false⟩, ⟨.grid, none, none, none, some true, none⟩], [.block, .block], ['T', 'T']⟩, ⟨['T', 'T'], [⟨.probe, none, none, none, none, some true⟩, ⟨.backwall, some .solidFluid, some .reflection, some .under, some false, some false⟩, ⟨.grid, none, none, none, some true, none⟩], [.block, .block], ['T', 'T']⟩, ['T', 'T']⟩,
  ⟨.contact true false false, ['L'], ['L'], ⟨['L'], [⟨.probe, none, none, none, none, some true⟩, ⟨.grid, none, none, none, some true, none⟩], [.block], ['L']⟩, ⟨['L'], [⟨.probe, none, none, none, none, some true⟩, ⟨.grid, none, none, none, some true, none⟩], [.block], ['L']⟩, ['L', 'L']⟩,
  ⟨.contact true false false, ['L'], ['T'], ⟨['L'], [⟨.probe, none, none, none, none, some true⟩, ⟨.grid, none, none, none, some true, none⟩], [.block], ['L']⟩, ⟨['T'], [⟨.probe, none, none, none, none, some true⟩, ⟨.grid, none, none, none, some true, none⟩], [.block], ['T']⟩, ['L', 'T']⟩,
  ⟨.contact true false false, ['T'], ['L'], ⟨['T'], [⟨.probe, none, none, none, none, some true⟩, ⟨.grid, none, none, none, some true, none⟩], [.block], ['T']⟩, ⟨['L'], [⟨.probe, none, none, none, none, some true⟩, ⟨.grid, none, none, none, some true, none⟩], [.block], ['L']⟩, ['T', 'L']⟩,
  ⟨.contact true false false, ['T'], ['T'], ⟨['T'], [⟨.probe, none, none, none, none, some true⟩, ⟨.grid, none, none, none, some true, none⟩], [.block], ['T']⟩, ⟨['T'], [⟨.probe, none, none, none, none, some true⟩, ⟨.grid, none, none, none, some true, none⟩], [.block], ['T']⟩, ['T', 'T']⟩,
  ⟨.contact true false false, ['L', 'L'], ['L'], ⟨['L', 'L'], [⟨.probe, none, none, none, none, some true⟩, ⟨.backwall, none, none, none, some false, some false⟩, ⟨.grid, none, none, none, some true, none⟩], [.block, .block], ['L', 'L']⟩, ⟨['L'], [⟨.probe, none, none, none, none, some true⟩, ⟨.grid, none, none, none, some true, none⟩], [.block], ['L']⟩, ['L', 'L']⟩,
  ⟨.contact true false false, ['L', 'L'], ['T'], ⟨['L', 'L'], [⟨.probe, none, none, none, none, some true⟩, ⟨.backwall, none, none, none, some false, some false⟩, ⟨.grid, none, none, none, some true, none⟩], [.block, .block], ['L', 'L']⟩, ⟨['T'], [⟨.probe, none, none, none, none, some true⟩, ⟨.grid, none, none, none, some true, none⟩], [.block], ['T']⟩, ['L', 'T']⟩,
  ⟨.contact true false false, ['L', 'T'], ['L'], ⟨['L', 'T'], [⟨.probe, none, none, none, none, some true⟩, ⟨.backwall, none, none, none, some false, some false⟩, ⟨.grid, none, none, none, some true, none⟩], [.block, .block], ['L', 'T']⟩, ⟨['L'], [⟨.probe, none, none, none, none, some true⟩, ⟨.grid, none, none, none, some true, none⟩], [.block], ['L']⟩, ['T', 'L']⟩,
  ⟨.contact true false false, ['L', 'T'], ['T'], ⟨['L', 'T'], [⟨.probe, none, none, none, none, some true⟩, ⟨.backwall, none, none, none, some false, some false⟩, ⟨.grid, none, none, none, some true, none⟩], [.block, .block], ['L', 'T']⟩, ⟨['T'], [⟨.probe, none, none, none, none, some true⟩, ⟨.grid, none, none, none, some true, none⟩], [.block], ['T']⟩, ['T', 'T']⟩,
  ⟨.contact true false false, ['T', 'L'], ['L'], ⟨['T', 'L'], [⟨.probe, none, none, none, none, some true⟩, ⟨.backwall, none, none, none, some false, some false⟩, ⟨.grid, none, none, none, some true, none⟩], [.block, .block], ['T', 'L']⟩, ⟨['L'], [⟨.probe, none, none, none, none, some true⟩, ⟨.grid, none, none, none, some true, none⟩], [.block], ['L']⟩, ['L', 'L']⟩,
  ⟨.contact true false false, ['T', 'L'], ['T'], ⟨['T', 'L'], [⟨.probe, none, none, none, none, some true⟩, ⟨.backwall, none, none, none, some false, some false⟩, ⟨.grid, none, none, none, some true, none⟩], [.block, .block], ['T', 'L']⟩, ⟨['T'], [⟨.probe, none, none, none, none, some true⟩, ⟨.grid, none, none, none, some true, none⟩], [.block], ['T']⟩, ['L', 'T']⟩,
  ⟨.contact true false false, ['T', 'T'], ['L'], ⟨['T', 'T'], [⟨.probe, none, none, none, none, some true⟩, ⟨.backwall, none, none, none, some false, some false⟩, ⟨.grid, none, none, none, some true, none⟩], [.block, .block], ['T', 'T']⟩, ⟨['L'], [⟨.probe, none, none, none, none, some true⟩, ⟨.grid, none, none, none, some true, none⟩], [.block], ['L']⟩, ['T', 'L']⟩,
  ⟨.contact true false false, ['T', 'T'], ['T'], ⟨['T', 'T'], [⟨.probe, none, none, none, none, some true⟩, ⟨.backwall, none, none, none, some false, some false⟩, ⟨.grid, none, none, none, some true, none⟩], [.block, .block], ['T', 'T']⟩, ⟨['T'], [⟨.probe, none, none, none, none, some true⟩, ⟨.grid, none, none, none, some true, none⟩], [.block], ['T']⟩, ['T', 'T']⟩,
  ⟨.contact true false false, ['L'], ['L', 'L'], ⟨['L'], [⟨.probe, none, none, none, none, some true⟩, ⟨.grid, none, none, none, some true, none⟩], [.block], ['L']⟩, ⟨['L', 'L'], [⟨.probe, none, none, none, none, some true⟩, ⟨.backwall, none, none, none, some false, some false⟩, ⟨.grid, none, none, none, some true, none⟩], [.block, .block], ['L', 'L']⟩, ['L', 'L']⟩,
  ⟨.contact true false false, ['L'], ['L', 'T'], ⟨['L'], [⟨.probe, none, none, none, none, some true⟩, ⟨.grid, none, none, none, some true, none⟩], [.block], ['L']⟩, ⟨['T', 'L'], [⟨.probe, none, none, none, none, some true⟩, ⟨.backwall, none, none, none, some false, some false⟩, ⟨.grid, none, none, none, some true, none⟩], [.block, .block], ['T', 'L']⟩, ['L', 'L']⟩,
  ⟨.contact true false false, ['L'], ['T', 'L'], ⟨['L'], [⟨.probe, none, none, none, none, some true⟩, ⟨.grid, none, none, none, some true, none⟩], [.block], ['L']⟩, ⟨['L', 'T'], [⟨.probe, none, none, none, none, some true⟩, ⟨.backwall, none, none, none, some false, some false⟩, ⟨.grid, none, none, none, some true, none⟩], [.block, .block], ['L', 'T']⟩, ['L', 'T']⟩,
  ⟨.contact true false false, ['L'], ['T', 'T'], ⟨['L'], [⟨.probe, none, none, none, none, some true⟩, ⟨.grid, none, none, none, some true, none⟩], [.block], ['L']⟩, ⟨['T', 'T'], [⟨.probe, none, none, none, none, some true⟩, ⟨.backwall, none, none, none, some false, some false⟩, ⟨.grid, none, none, none, some true, none⟩], [.block, .block], ['T', 'T']⟩, ['L', 'T']⟩
]

def table16 : List ViewEntry := [
  ⟨.contact true false false, ['T'], ['L', 'L'], ⟨['T'], [⟨.probe, none, none, none, none, some true⟩, ⟨.grid, none, none, none, some true, none⟩], [.block], ['T']⟩, ⟨['L', 'L'], [⟨.probe, none, none, none, none, some true⟩, ⟨.backwall, none, none, none, some false, some false⟩, ⟨.grid, none, none, none, some true, none⟩], [.block, .block], ['L', 'L']⟩, ['T', 'L']⟩,
  ⟨.contact true false false, ['T'], ['L', 'T'], ⟨['T'], [⟨.probe, none, none, none, none, some true⟩, ⟨.grid, none, none, none, some true, none⟩], [.block], ['T']⟩, ⟨['T', 'L'], [⟨.probe, none, none, none, none, some true⟩, ⟨.backwall, none, none, none, some false, some false⟩, ⟨.grid, none, none, none, some true, none⟩], [.block, .block], ['T', 'L']⟩, ['T', 'L']⟩,
  ⟨.contact true false false, ['T'], ['T', 'L'], ⟨['T'], [⟨.probe, none, none, none, none, some true⟩, ⟨.grid, none, none, none, some true, none⟩], [.block], ['T']⟩, ⟨['L', 'T'], [⟨.probe, none, none, none, none, some true⟩, ⟨.backwall, none, none, none, some false, some false⟩, ⟨.grid, none, none, none, some true, none⟩], [.block, .block], ['L', 'T']⟩, ['T', 'T']⟩,
  ⟨.contact true false false, ['T'], ['T', 'T'], ⟨['T'], [⟨.probe, none, none, none, none, some true⟩, ⟨.grid, none, none, none, some true, none⟩], [.block], ['T']⟩, ⟨['T', 'T'], [⟨.probe, none, none, none, none, some true⟩, ⟨.backwall, none, none, none, some false, some false⟩, ⟨.grid, none, none, none, some true, none⟩], [.block, .block], ['T', 'T']⟩, ['T', 'T']⟩,
  ⟨.contact true false false, ['L', 'L'], ['L', 'L'], ⟨['L', 'L'], [⟨.probe, none, none, none, none, some true⟩, ⟨.backwall, none, none, none, some false, some false⟩, ⟨.grid, none, none, none, some true, none⟩], [.block, .block], ['L', 'L']⟩, ⟨['L', 'L'], [⟨.probe, none, none, none, none, some true⟩, ⟨.backwall, none, none, none, some false, some false⟩, ⟨.grid, none, none, none, some true, none⟩], [.block, .block], ['L', 'L']⟩, ['L', 'L']⟩,
  ⟨.contact true false false, ['L', 'L'], ['L', 'T'], ⟨['L', 'L'], [⟨.probe, none, none, none, none, some true⟩, ⟨.backwall, none, none, none, some false, some false⟩, ⟨.grid, none, none, none, some true, none⟩], [.block, .block], ['L', 'L']⟩, ⟨['T', 'L'], [⟨.probe, none, none, none, none, some true⟩, ⟨.backwall, none, none, none, some false, some false⟩, ⟨.grid, none, none, none, some true, none⟩], [.block, .block], ['T', 'L']⟩, ['L', 'L']⟩,
  ⟨.contact true false false, ['L', 'L'], ['T', 'L'], ⟨['L', 'L'], [⟨.probe, none, none, none, none, some true⟩, ⟨.backwall, none, none, none, some false, some false⟩, ⟨.grid, none, none, none, some true, none⟩], [.block, .block], ['L', 'L']⟩, ⟨['L', 'T'], [⟨.probe, none, none, none, none, some true⟩, ⟨.backwall, none, none, none, some false, some false⟩, ⟨.grid, none, none, none, some true, none⟩], [.block, .block], ['L', 'T']⟩, ['L', 'T']⟩,
  ⟨.contact true false false, ['L', 'L'], ['T', 'T'], ⟨['L', 'L'], [⟨.probe, none, none, none, none, some true⟩, ⟨.backwall, none, none, none, some false, some false⟩, ⟨.grid, none, none, none, some true, none⟩], [.block, .block], ['L', 'L']⟩, ⟨['T', 'T'], [⟨.probe, none, none, none, none, some true⟩, ⟨.backwall, none, none, none, some false, some false⟩, ⟨.grid, none, none, none, some true, none⟩], [.block, .block], ['T', 'T']⟩, ['L', 'T']⟩,
  ⟨.contact true false false, ['L', 'T'], ['L', 'L'], ⟨['L', 'T'], [⟨.probe, none, none, none, none, some true⟩, ⟨.backwall, none, none, none, some false, some false⟩, ⟨.grid, none, none, none, some true, none⟩], [.block, .block], ['L', 'T']⟩, ⟨['L', 'L'], [⟨.probe, none, none, none, none, some true⟩, ⟨.backwall, none, none, none, some false, some false⟩, ⟨.grid, none, none, none, some true, none⟩], [.block, .block], ['L', 'L']⟩, ['T', 'L']⟩,
  ⟨.contact true false false, ['L', 'T'], ['L', 'T'], ⟨['L', 'T'], [⟨.probe, none, none, none, none, some true⟩, ⟨.backwall, none, none, none, some false, some false⟩, ⟨.grid, none, none, none, some true, none⟩], [.block, .block], ['L', 'T']⟩, ⟨['T', 'L'], [⟨.probe, none, none, none, none, some true⟩, ⟨.backwall, none, none, none, some false, some false⟩, ⟨.grid, none, none, none, some true, none⟩], [.block, .block], ['T', 'L']⟩, ['T', 'L']⟩,
  ⟨.contact true false false, ['L', 'T'], ['T', 'L'], ⟨['L', 'T'], [⟨.probe, none, none, none, none, some true⟩, ⟨.backwall, none, none, none, some false, some false⟩, ⟨.grid, none, none, none, some true, none⟩], [.block, .block], ['L', 'T']⟩, ⟨['L', 'T'], [⟨.probe, none, none, none, none, some true⟩, ⟨.backwall, none, none, none, some false, some false⟩, ⟨.grid, none, none, none, some true, none⟩], [.block, .block], ['L', 'T']⟩, ['T', 'T']⟩,
  ⟨.contact true false false, ['L', 'T'], ['T', 'T'], ⟨['L', 'T'], [⟨.probe, none, none, none, none, some true⟩, ⟨.backwall, none, none, none, some false, some false⟩, ⟨.grid, none, none, none, some true, none⟩], [.block, .block], ['L', 'T']⟩, ⟨['T', 'T'], [⟨.probe, none, none, none, none, some true⟩, ⟨.backwall, none, none, none, some false, some false⟩, ⟨.grid, none, none, none, some true, none⟩], [.block, .block], ['T', 'T']⟩, ['T', 'T']⟩,
  ⟨.contact true false false, ['T', 'L'], ['L', 'L'], ⟨['T', 'L'], [⟨.probe, none, none, none, none, some true⟩, ⟨.backwall, none, none, none, some false, some false⟩, ⟨.grid, none, none, none, some true, none⟩], [.block, .block], ['T', 'L']⟩, ⟨['L', 'L'], [⟨.probe, none, none, none, none, some true⟩, ⟨.backwall, none, none, none, some false, some false⟩, ⟨.grid, none, none, none, some true, none⟩], [.block, .block], ['L', 'L']⟩, ['L', 'L']⟩,
  ⟨.contact true false false, ['T', 'L'], ['L', 'T'], ⟨['T', 'L'], [⟨.probe, none, none, none, none, some true⟩, ⟨.backwall, none, none, none, some false, some false⟩, ⟨.grid, none, none, none, some true, none⟩], [.block, .block], ['T', 'L']⟩, ⟨['T', 'L'], [⟨.probe, none, none, none, none, some true⟩, ⟨.backwall, none, none, none, some false, some false⟩, ⟨.grid, none, none, none, some true, none⟩], [.block, .block], ['T', 'L']⟩, ['L', 'L']⟩,
  ⟨.contact true false false, ['T', 'L'], ['T', 'L'], ⟨['T', 'L'], [⟨.probe, none, none, none, none, some true⟩, ⟨.backwall, none, none, none, some false, some false⟩, ⟨.grid, none, none, none, some true, none⟩], [.block, .block], ['T', 'L']⟩, ⟨['L', 'T'], [⟨.probe, none, none, none, none, some true⟩, ⟨.backwall, none, none, none, some false, some false⟩, ⟨.grid, none, none, none, some true, none⟩], [.block, .block], ['L', 'T']⟩, ['L', 'T']⟩,
  ⟨.contact true false false, ['T', 'L'], ['T', 'T'], ⟨['T', 'L'], [⟨.probe, none, none, none, none, some true⟩, ⟨.backwall, none, none, none, some false, some false⟩, ⟨.grid, none, none, none, some true, none⟩], [.block, .block], ['T', 'L']⟩, ⟨['T', 'T'], [⟨.probe, none, none, none, none, some true⟩, ⟨.backwall, none, none, none, some false, some false⟩, ⟨.grid, none, none, none, some true, none⟩], [.block, .block], ['T', 'T']⟩, ['L', 'T']⟩,
  ⟨.contact true false false, ['T', 'T'], ['L', 'L'], ⟨['T', 'T'], [⟨.probe, none, none, none, none, some true⟩, ⟨.backwall, none, none, none, some false, some false⟩, ⟨.grid, none, none, none, some true, none⟩], [.block, .block], ['T', 'T']⟩, ⟨['L', 'L'], [⟨.probe, none, none, none, none, some true⟩, ⟨.backwall, none, none, none, some false, some false⟩, ⟨.grid, none, none, none, some true, none⟩], [.block, .block], ['L', 'L']⟩, ['T', 'L']⟩,
  ⟨.contact true false false, ['T', 'T'], ['L', 'T'], ⟨['T', 'T'], [⟨.probe, none, none, none, none, some true⟩, ⟨.backwall, none, none, none, some false, some false⟩, ⟨.grid, none, none, none, some true, none⟩], [.block, .block], ['T', 'T']⟩, ⟨['T', 'L'], [⟨.probe, none, none, none, none, some true⟩, ⟨.backwall, none, none, none, some false, some false⟩, ⟨.grid, none, none, none, some true, none⟩], [.block, .block], ['T', 'L']⟩, ['T', 'L']⟩,
  ⟨.contact true false false, ['T', 'T'], ['T', 'L'], ⟨['T', 'T'], [⟨.probe, none, none, none, none, some true⟩, ⟨.backwall, none, none, none, some false, some false⟩, ⟨.grid, none, none, none, some true, none⟩], [.block, .block], ['T', 'T']⟩, ⟨['L', 'T'], [⟨.probe, none, none, none, none, some true⟩, ⟨.backwall, none, none, none, some false, some false⟩, ⟨.grid, none, none, none, some true, none⟩], [.block, .block], ['L', 'T']⟩, ['T', 'T']⟩,
  ⟨.contact true false false, ['T', 'T'], ['T', 'T'], ⟨['T', 'T'], [⟨.probe, none, none, none, none, some true⟩, ⟨.backwall, none, none, none, some false, some false⟩, ⟨.grid, none, none, none, some true, none⟩], [.block, .block], ['T', 'T']⟩, ⟨['T', 'T'], [⟨.probe, none, none, none, none, some true⟩, ⟨.backwall, none, none, none, some false, some false⟩, ⟨.grid, none, none, none, some true, none⟩], [.block, .block], ['T', 'T']⟩, ['T', 'T']⟩,
  ⟨.contact false true true, ['L'], ['L'], ⟨['L'], [⟨.probe, none, none, none, none, some true⟩, ⟨.grid, none, none, none, some true, none⟩], [.block], ['L']⟩, ⟨['L'], [⟨.probe, none, none, none, none, some true⟩, ⟨.grid, none, none, none, some true, none⟩], [.block], ['L']⟩, ['L', 'L']⟩,
  ⟨.contact false true true, ['L'], ['T'], ⟨['L'], [⟨.probe, none, none, none, none, some true⟩, ⟨.grid, none, none, none, some true, none⟩], [.block], ['L']⟩, ⟨['T'], [⟨.probe, none, none, none, none, some true⟩, ⟨.grid, none, none, none, some true, none⟩], [.block], ['T']⟩, ['L', 'T']⟩,
  ⟨.contact false true true, ['T'], ['L'], ⟨['T'], [⟨.probe, none, none, none, none, some true⟩, ⟨.grid, none, none, none, some true, none⟩], [.block], ['T']⟩, ⟨['L'], [⟨.probe, none, none, none, none, some true⟩, ⟨.grid, none, none, none, some true, none⟩], [.block], ['L']⟩, ['T', 'L']⟩,
  ⟨.contact false true true, ['T'], ['T'], ⟨['T'], [⟨.probe, none, none, none, none, some true⟩, ⟨.grid, none, none, none, some true, none⟩], [.block], ['T']⟩, ⟨['T'], [⟨.probe, none, none, none, none, some true⟩, ⟨.grid, none, none, none, some true, none⟩], [.block], ['T']⟩, ['T', 'T']⟩,
  ⟨.contact false true false, ['L'], ['L'], ⟨['L'], [⟨.probe, none, none, none, none, some true⟩, ⟨.grid, none, none, none, some true, none⟩], [.block], ['L']⟩, ⟨['L'], [⟨.probe, none, none, none, none, some true⟩, ⟨.grid, none, none, none, some true, none⟩], [.block], ['L']⟩, ['L', 'L']⟩,
  ⟨.contact false true false, ['L'], ['T'], ⟨['L'], [⟨.probe, none, none, none, none, some true⟩, ⟨.grid, none, none, none, some true, none⟩], [.block], ['L']⟩, ⟨['T'], [⟨.probe, none, none, none, none, some true⟩, ⟨.grid, none, none, none, some true, none⟩], [.block], ['T']⟩, ['L', 'T']⟩,
  ⟨.contact false true false, ['T'], ['L'], ⟨['T'], [⟨.probe, none, none, none, none, some true⟩, ⟨.grid, none, none, none, some true, none⟩], [.block], ['T']⟩, ⟨['L'], [⟨.probe, none, none, none, none, some true⟩, ⟨.grid, none, none, none, some true, none⟩], [.block], ['L']⟩, ['T', 'L']⟩,
  ⟨.contact false true false, ['T'], ['T'], ⟨['T'], [⟨.probe, none, none, none, none, some true⟩, ⟨.grid, none, none, none, some true, none⟩], [.block], ['T']⟩, ⟨['T'], [⟨.probe, none, none, none, none, some true⟩, ⟨.grid, none, none, none, some true, none⟩], [.block], ['T']⟩, ['T', 'T']⟩,
  ⟨.contact false false true, ['L'], ['L'], ⟨['L'], [⟨.probe, none, none, none, none, some true⟩, ⟨.grid, none, none, none, some true, none⟩], [.block], ['L']⟩, ⟨['L'], [⟨.probe, none, none, none, none, some true⟩, ⟨.grid, none, none, none, some true, none⟩], [.block], ['L']⟩, ['L', 'L']⟩,
  ⟨.contact false false true, ['L'], ['T'], ⟨['L'], [⟨.probe, none, none, none, none, some true⟩, ⟨.grid, none, none, none, some true, none⟩], [.block], ['L']⟩, ⟨['T'], [⟨.probe, none, none, none, none, some true⟩, ⟨.grid, none, none, none, some true, none⟩], [.block], ['T']⟩, ['L', 'T']⟩,
  ⟨.contact false false true, ['T'], ['L'], ⟨['T'], [⟨.probe, none, none, none, none, some true⟩, ⟨.grid, none, none, none, some true, none⟩], [.block], ['T']⟩, ⟨['L'], [⟨.probe, none, none, none, none, some true⟩, ⟨.grid, none, none, none, some true, none⟩], [.block], ['L']⟩, ['T', 'L']⟩,
  ⟨.contact false false true, ['T'], ['T'], ⟨['T'], [⟨.probe, none, none, none, none, some true⟩, ⟨.grid, none, none, none, some true, none⟩], [.block], ['T']⟩, ⟨['T'], [⟨.probe, none, none, none, none, some true⟩, ⟨.grid, none, none, none, some true, none⟩], [.block], ['T']⟩, ['T', 'T']⟩,
  ⟨.contact false false false, ['L'], ['L'], ⟨['L'], [⟨.probe, none, none, none, none, some true⟩, ⟨.grid, none, none, none, some true, none⟩], [.block], ['L']⟩, ⟨['L'], [⟨.probe, none, none, none, none, some true⟩, ⟨.grid, none, none, none, some true, none⟩], [.block], ['L']⟩, ['L', 'L']⟩,
  ⟨.contact false false false, ['L'], ['T'], ⟨['L'], [⟨.probe, none, none, none, none, some true⟩, ⟨.grid, none, none, none, some true, none⟩], [.block], ['L']⟩, ⟨['T'], [⟨.probe, none, none, none, none, some true⟩, ⟨.grid, none, none, none, some true, none⟩], [.block], ['T']⟩, ['L', 'T']⟩,
  ⟨.contact false false false, ['T'], ['L'], ⟨['T'], [⟨.probe, none, none, none, none, some true⟩, ⟨.grid, none, none, none, some true, none⟩], [.block], ['T']⟩, ⟨['L'], [⟨.probe, none, none, none, none, some true⟩, ⟨.grid, none, none, none, some true, none⟩], [.block], ['L']⟩, ['T', 'L']⟩,
  ⟨.contact false false false, ['T'], ['T'], ⟨['T'], [⟨.probe, none, none, none, none, some true⟩, ⟨.grid, none, none, none, some true, none⟩], [.block], ['T']⟩, ⟨['T'], [⟨.probe, none, none, none, none, some true⟩, ⟨.grid, none, none, none, some true, none⟩], [.block], ['T']⟩, ['T', 'T']⟩
]

def table : List ViewEntry := table0 ++ table1 ++ table2 ++ table3 ++ table4 ++ table5 ++ table6 ++ table7 ++ table8 ++ table9 ++ table10 ++ table11 ++ table12 ++ table13 ++ table14 ++ table15 ++ table16
end Arim.C18Gen
