import ArimModel.Views
import ArimProofs.Generated.C18Table
import ArimProofs.Lemmas.Views
import Mathlib.Data.List.Perm.Basic
/-! # C18 — views and paths mean what their names say; unique views are reciprocity classes

The sorting key as a lexicographic order, the stable sort and `filterUnique` one view at a time are in
`Lemmas/Views.lean`; the table of `wired_ok` is `Generated/C18Table.lean`. -/
namespace Arim.C18
open Arim.Views

/-- Every view that `make_views` returns in /repo (all immersion and contact set-ups, 0–2
reflections, unique on/off; the table is regenerated from the implementation's output by
`harness/c18.py` on every run of the C18 check and by `setup_cmd`) transmits along the path
named `X`, receives along the path stored under `reverse Y`, crosses the declared walls with
the declared kinds, flags and materials, and has scattering key `last X ++ first Y`. -/
theorem wired_ok : ∀ e ∈ Arim.C18Gen.table, wellWired e = true :=
  List.all_eq_true.mp (by decide +kernel)

/-- what `wellWired` means for the modes: an immersion path named `w` carries `L :: w`
(the couplant leg is longitudinal), a contact path carries exactly `w` -/
theorem expected_modes (s : Setup) (w : Word) (p : PathSpec) (h : expectedPath s w = some p) :
    p.name = w ∧ p.modes = (match s with | .immersion => 'L' :: w | .contact _ _ _ => w) := by
  unfold expectedPath at h
  split at h
  · cases h
  · split at h <;> (try split at h) <;> cases h <;> exact ⟨rfl, rfl⟩

theorem recip_involutive (v : VName) : recip (recip v) = v := by simp [recip]

theorem iface_reverse_reverse (i j : Iface) (h : i.reverse = some j) : j.reverse = some i := by
  obtain ⟨pts, kind, tr, ag, inc, out⟩ := i
  -- `reverse` exchanges `inc` and `out` and flips the kind on a transmission only (a kind without `tr` has no reverse):
  -- both are involutions, case by case
  cases kind with
  | none => simp [Iface.reverse] at h; subst h; simp [Iface.reverse]
  | some k =>
    cases tr with
    | none => simp [Iface.reverse] at h
    | some t =>
      cases t <;> cases k <;> simp [Iface.reverse, Kind.reverse] at h <;> subst h <;>
        simp [Iface.reverse, Kind.reverse]

theorem iface_reverse_pts (i j : Iface) (h : i.reverse = some j) : j.pts = i.pts := by
  unfold Iface.reverse at h
  split at h <;> simp at h <;> subst h <;> rfl

theorem mapM_reverse_reverse (is js : List Iface) (h : is.mapM Iface.reverse = some js) :
    js.mapM Iface.reverse = some is :=
  ViewsLemmas.mapM_eq_some_iff.2 ((ViewsLemmas.mapM_eq_some_iff.1 h).flip.imp fun _ _ => iface_reverse_reverse _ _)

theorem mapM_reverse_list (is js : List Iface) (h : is.mapM Iface.reverse = some js) :
    is.reverse.mapM Iface.reverse = some js.reverse :=
  ViewsLemmas.mapM_eq_some_iff.2 (List.forall₂_reverse_iff.2 (ViewsLemmas.mapM_eq_some_iff.1 h))

theorem mapM_reverse_pts (is js : List Iface) (h : is.mapM Iface.reverse = some js) :
    js.map (·.pts) = is.map (·.pts) := by
  rw [← List.forall₂_eq_eq_eq, List.forall₂_map_left_iff, List.forall₂_map_right_iff]
  exact (ViewsLemmas.mapM_eq_some_iff.1 h).flip.imp fun _ _ => iface_reverse_pts _ _

theorem path_reverse_eq_some {p q : PathSpec} :
    p.reverse = some q ↔ ∃ js, p.ifaces.mapM Iface.reverse = some js ∧
      q = ⟨p.name, js.reverse, p.mats.reverse, p.modes.reverse⟩ := by
  simp only [PathSpec.reverse, Option.map_eq_some_iff, eq_comm (a := q)]

/-- `Path.reverse` twice gives the path back, where it is defined: modes, materials, and the
interfaces with their kinds and flags -/
theorem path_reverse_reverse (p q : PathSpec) (h : p.reverse = some q) : q.reverse = some p := by
  obtain ⟨js, hm, rfl⟩ := path_reverse_eq_some.1 h
  refine path_reverse_eq_some.2
    ⟨_, mapM_reverse_reverse _ _ (mapM_reverse_list _ _ hm), ?_⟩
  simp only [List.reverse_reverse]

theorem path_reverse_spec (p q : PathSpec) (h : p.reverse = some q) :
    q.modes = p.modes.reverse ∧ q.mats = p.mats.reverse ∧ q.name = p.name ∧
      q.ifaces.map (·.pts) = (p.ifaces.map (·.pts)).reverse := by
  obtain ⟨js, hm, rfl⟩ := path_reverse_eq_some.1 h
  exact ⟨rfl, rfl, rfl, by rw [List.map_reverse, mapM_reverse_pts _ _ hm]⟩

example : wellWired ⟨.immersion, ['L','T'], ['T'],
    ⟨['L','T'], [probeI, immFrontTrans, immBackRefl, gridI], [.couplant, .block, .block], ['L','L','T']⟩,
    ⟨['T'], [probeI, immFrontTrans, gridI], [.couplant, .block], ['L','T']⟩, ['T','T']⟩ = true := by decide +kernel
example : makeViewnames [['L'], ['T']] true = [(['L'],['L']), (['L'],['T']), (['T'],['T'])] := by decide +kernel

theorem makeViewnames_true (names : List Word) :
    makeViewnames names true = filterUnique (makeViewnames names false) := rfl

/-- `make_viewnames(names, unique_only=False)` returns every ordered pair (tx, rx) exactly as
often as its double loop over `pathnames` produces it (equality of multisets) -/
theorem viewnames_all_pairs (names : List Word) :
    (makeViewnames names false).Perm (allPairs names) :=
  ViewsLemmas.sortViews_perm (allPairs names)

theorem mem_allPairs {names : List Word} {v : VName} :
    v ∈ allPairs names ↔ v.1 ∈ names ∧ v.2 ∈ names :=
  List.mem_product (a := v.1) (b := v.2)

theorem mem_viewnames {names : List Word} {v : VName} :
    v ∈ makeViewnames names false ↔ v.1 ∈ names ∧ v.2 ∈ names :=
  (viewnames_all_pairs names).mem_iff.trans mem_allPairs

theorem viewnames_nodup (names : List Word) (h : names.Nodup) :
    (makeViewnames names false).Nodup :=
  (viewnames_all_pairs names).nodup_iff.mpr (ViewsLemmas.allPairs_nodup h)

theorem viewnames_length (names : List Word) :
    (makeViewnames names false).length = names.length * names.length := by
  rw [(viewnames_all_pairs names).length_eq, ViewsLemmas.allPairs_eq_product, List.length_product]

example : makeViewnames [['L'], ['T']] false
    = [(['L'],['L']), (['L'],['T']), (['T'],['L']), (['T'],['T'])] := by decide +kernel
example : ([['L'], ['T'], ['L','T']] : List Word).Nodup := by decide +kernel

theorem keyLt_irrefl (a : VName) : keyLt a a = false :=
  Bool.eq_false_iff.2 fun h => lt_irrefl _ ((ViewsLemmas.keyLt_iff a a).1 h)

theorem keyLt_trans {a b c : VName} (h1 : keyLt a b = true) (h2 : keyLt b c = true) :
    keyLt a c = true :=
  (ViewsLemmas.keyLt_iff a c).2
    (lt_trans ((ViewsLemmas.keyLt_iff a b).1 h1) ((ViewsLemmas.keyLt_iff b c).1 h2))

theorem keyLt_total {a b : VName} (h : a ≠ b) : keyLt a b = true ∨ keyLt b a = true := by
  rw [ViewsLemmas.keyLt_iff, ViewsLemmas.keyLt_iff]
  exact lt_or_gt_of_ne (ViewsLemmas.lexKey_injective.ne h)

theorem keyLt_asymm {a b : VName} (h : keyLt a b = true) : keyLt b a = false :=
  (ViewsLemmas.keyLt_eq_false_iff a b).2 ((ViewsLemmas.keyLt_iff a b).1 h).le

example : keyLt (['T'],['T']) (['L','T'],['L']) = true
    ∧ keyLt (['L','T'],['L']) (['L'],['L','T']) = true
    ∧ keyLt (['L'],['L','T']) (['L','T'],['L']) = false := by decide +kernel

/-- the result is in non-decreasing key order (`default_viewname_order`: total length, then
longest path, then rx length, tx length, tx name, rx name) -/
theorem viewnames_sorted (names : List Word) :
    (makeViewnames names false).Pairwise (fun a b => keyLt b a = false) :=
  ViewsLemmas.sortViews_sorted (allPairs names)

theorem viewnames_strict_sorted (names : List Word) (h : names.Nodup) :
    (makeViewnames names false).Pairwise (fun a b => keyLt a b = true) := by
  refine List.Pairwise.imp₂ ?_ (viewnames_sorted names) (viewnames_nodup names h)
  intro a b hle hne
  rcases keyLt_total hne with h' | h'
  · exact h'
  · rw [h'] at hle; cases hle

/-- the key determines the order of the result completely: any strictly increasing arrangement
of the pairs is the list that `make_viewnames` returns -/
theorem viewnames_unique_order' (names : List Word) (l : List VName)
    (hp : l.Perm (allPairs names)) (hs : l.Pairwise (fun a b => keyLt a b = true)) :
    l = makeViewnames names false :=
  ViewsLemmas.eq_of_perm_of_keySorted (hp.trans (viewnames_all_pairs names).symm)
    (hs.imp keyLt_asymm) (viewnames_sorted names)

/-- `_h` is not needed: it follows from the existence of a strictly increasing arrangement -/
theorem viewnames_unique_order (names : List Word) (_h : names.Nodup) (l : List VName)
    (hp : l.Perm (allPairs names)) (hs : l.Pairwise (fun a b => keyLt a b = true)) :
    l = makeViewnames names false :=
  viewnames_unique_order' names l hp hs

example : ([(['L'],['L']), (['L'],['T']), (['T'],['L']), (['T'],['T'])] : List VName).Perm
      (allPairs [['L'], ['T']])
    ∧ ([(['L'],['L']), (['L'],['T']), (['T'],['L']), (['T'],['T'])] : List VName).Pairwise
      (fun a b => keyLt a b = true) := by decide +kernel

theorem mem_viewnames_recip {names : List Word} (hc : ∀ w ∈ names, w.reverse ∈ names)
    {v : VName} (hv : v ∈ makeViewnames names false) : recip v ∈ makeViewnames names false :=
  mem_viewnames.2 ⟨hc _ (mem_viewnames.1 hv).2, hc _ (mem_viewnames.1 hv).1⟩

example : (∀ w ∈ [['L'], ['T'], ['L','T'], ['T','L']],
      w.reverse ∈ ([['L'], ['T'], ['L','T'], ['T','L']] : List Word))
    ∧ recip (['L','T'], ['T']) = (['T'], ['T','L']) := by decide +kernel

theorem filterUnique_sublist (views : List VName) : (filterUnique views).Sublist views := by
  induction views using List.reverseRecOn with
  | nil => exact List.Sublist.slnil
  | append_singleton l v ih =>
    rw [ViewsLemmas.filterUnique_concat]
    split
    · exact ih.trans (List.sublist_append_left _ _)
    · exact ih.append (List.Sublist.refl _)

/-- `filter_unique_views` keeps a member of every reciprocity class `{v, recip v}` -/
theorem unique_covers (views : List VName) :
    ∀ v ∈ views, v ∈ filterUnique views ∨ recip v ∈ filterUnique views := by
  induction views using List.reverseRecOn with
  | nil => intro v hv; cases hv
  | append_singleton l x ih =>
    intro v hv
    have hsub := (ViewsLemmas.filterUnique_prefix l [x]).subset
    rcases List.mem_append.1 hv with h | h
    · exact (ih v h).imp (hsub ·) (hsub ·)
    · cases List.mem_singleton.1 h
      rw [ViewsLemmas.filterUnique_concat]
      split
      · exact Or.inr ‹_›
      · exact Or.inl (List.mem_append_right _ List.mem_cons_self)

/-- at most one member of a reciprocity class is kept -/
theorem unique_one_per_class (views : List VName) :
    ∀ v ∈ filterUnique views, recip v ≠ v → recip v ∉ filterUnique views := by
  induction views using List.reverseRecOn with
  | nil => intro v hv; cases hv
  | append_singleton l x ih =>
    rw [ViewsLemmas.filterUnique_concat]
    split
    · exact ih
    · rename_i hx
      simp only [List.mem_append, List.mem_singleton]
      rintro v (hv | rfl) hne (hr | hr)
      · -- `v` and `recip v` both kept before `x`
        exact ih v hv hne hr
      · -- `recip v = x`: then `recip x = v` was kept before, and `x` would not have been kept
        exact hx (by rwa [← hr, recip_involutive])
      · -- `v = x` with `recip x` kept before: again `x` would not have been kept
        exact hx hr
      · -- `v = x = recip x`: excluded by `hne`
        exact hne hr

/-- in a duplicate-free list the member kept is the one that comes first -/
theorem unique_is_first (views : List VName) (hnd : views.Nodup) :
    ∀ v ∈ filterUnique views, ∀ i j : Nat, views[i]? = some v → views[j]? = some (recip v) → i ≤ j := by
  intro v hv i j hi hj
  by_contra hlt
  -- otherwise `recip v` is kept from the prefix ending at `j`, while `v` only comes after it
  have hji : j + 1 ≤ i := Nat.lt_of_not_le hlt
  have hrP : recip v ∈ views.take (j + 1) :=
    List.mem_of_getElem? ((List.getElem?_take_of_lt (Nat.lt_succ_self j)).trans hj)
  have hvD : v ∈ views.drop (j + 1) :=
    List.mem_of_getElem? (i := i - (j + 1))
      (by rw [List.getElem?_drop, Nat.add_sub_cancel' hji, hi])
  have hdisj := (List.nodup_append.1 ((List.take_append_drop (j + 1) views).symm ▸ hnd)).2.2
  have hr : recip v ∈ filterUnique views := by
    have := (ViewsLemmas.filterUnique_prefix (views.take (j + 1)) (views.drop (j + 1))).subset
    rw [List.take_append_drop] at this
    refine this ((unique_covers _ _ hrP).resolve_right fun h => ?_)
    rw [recip_involutive] at h
    exact hdisj v ((filterUnique_sublist _).subset h) v hvD rfl
  exact unique_one_per_class views v hv (fun e => hdisj _ hrP _ hvD e) hr

/-- in a duplicate-free list, `filter_unique_views` keeps a view iff its reciprocal does not come
before it -/
theorem filterUnique_keeps_first (views : List VName) (hnd : views.Nodup) (v : VName) :
    v ∈ filterUnique views ↔
      v ∈ views ∧ ∀ i j : Nat, views[i]? = some v → views[j]? = some (recip v) → i ≤ j := by
  constructor
  · intro hv
    exact ⟨(filterUnique_sublist views).subset hv, unique_is_first views hnd v hv⟩
  · rintro ⟨hv, hfirst⟩
    refine (unique_covers views v hv).elim id fun h => ?_
    -- `recip v` is kept, so it is first too: both sit at the same place, and `recip v = v`
    obtain ⟨i, hi⟩ := List.mem_iff_getElem?.mp hv
    obtain ⟨j, hj⟩ := List.mem_iff_getElem?.mp ((filterUnique_sublist views).subset h)
    have hij := Nat.le_antisymm (hfirst i j hi hj)
      (unique_is_first views hnd _ h j i hj (by rwa [recip_involutive]))
    rw [hij, hj] at hi
    exact Option.some.inj hi ▸ h

example : filterUnique [(['L'],['T']), (['T'],['L']), (['L','T'],['T']), (['T'],['T','L'])]
    = [(['L'],['T']), (['L','T'],['T'])] := by decide +kernel
example : (makeViewnames [['L'], ['T'], ['L','T'], ['T','L']] false).Nodup
    ∧ (∀ v ∈ makeViewnames [['L'], ['T'], ['L','T'], ['T','L']] false,
        recip v ∈ makeViewnames [['L'], ['T'], ['L','T'], ['T','L']] false)
    ∧ (makeViewnames [['L'], ['T'], ['L','T'], ['T','L']] false).length = 16
    ∧ (makeViewnames [['L'], ['T'], ['L','T'], ['T','L']] true).length = 10 := by decide +kernel

theorem viewnames_unique_sublist (names : List Word) :
    (makeViewnames names true).Sublist (makeViewnames names false) :=
  filterUnique_sublist _

/-- for distinct path names closed under reversal, the unique views are the key-smallest members
of the reciprocity classes -/
theorem viewnames_unique_iff (names : List Word) (hn : names.Nodup)
    (hc : ∀ w ∈ names, w.reverse ∈ names) (v : VName) :
    v ∈ makeViewnames names true ↔ v ∈ allPairs names ∧ keyLt (recip v) v = false := by
  have hnd := viewnames_nodup names hn
  have key : ∀ u ∈ filterUnique (makeViewnames names false), keyLt (recip u) u = false := by
    intro u hu
    have hu' := (filterUnique_sublist _).subset hu
    obtain ⟨i, hi⟩ := List.mem_iff_getElem?.mp hu'
    obtain ⟨j, hj⟩ := List.mem_iff_getElem?.mp (mem_viewnames_recip hc hu')
    obtain ⟨hi', rfl⟩ := List.getElem?_eq_some_iff.mp hi
    obtain ⟨hj', hje⟩ := List.getElem?_eq_some_iff.mp hj
    -- the kept view comes first, and the list is in key order
    rcases Nat.lt_or_eq_of_le (unique_is_first _ hnd _ hu i j hi hj) with hlt | rfl
    · exact hje ▸ List.pairwise_iff_getElem.mp (viewnames_sorted names) i j hi' hj' hlt
    · exact hje ▸ keyLt_irrefl _
  rw [makeViewnames_true]
  constructor
  · intro hv
    exact ⟨(viewnames_all_pairs names).mem_iff.mp ((filterUnique_sublist _).subset hv), key v hv⟩
  · rintro ⟨hv, hle⟩
    refine (unique_covers _ v ((viewnames_all_pairs names).mem_iff.mpr hv)).elim id fun h => ?_
    have h2 := key (recip v) h
    rw [recip_involutive] at h2
    exact ViewsLemmas.keyLe_antisymm hle h2 ▸ h

theorem viewnames_unique_eq_filter (names : List Word) (hn : names.Nodup)
    (hc : ∀ w ∈ names, w.reverse ∈ names) :
    makeViewnames names true
      = (makeViewnames names false).filter (fun v => !keyLt (recip v) v) := by
  have hnd := viewnames_nodup names hn
  have hs1 := viewnames_unique_sublist names
  have hs2 : ((makeViewnames names false).filter (fun v => !keyLt (recip v) v)).Sublist
      (makeViewnames names false) := List.filter_sublist
  -- two sub-lists of a duplicate-free list with the same members
  refine (hnd.perm_iff_eq_of_sublist hs1 hs2).1
    ((List.perm_ext_iff_of_nodup (hs1.nodup hnd) (hs2.nodup hnd)).2 fun v => ?_)
  rw [viewnames_unique_iff names hn hc v, List.mem_filter, (viewnames_all_pairs names).mem_iff]
  simp

example : makeViewnames [['L'], ['T'], ['L','T'], ['T','L']] true
    = (makeViewnames [['L'], ['T'], ['L','T'], ['T','L']] false).filter
        (fun v => !keyLt (recip v) v) := by decide +kernel

theorem allPairs_perm {a b : List Word} (h : a.Perm b) : (allPairs a).Perm (allPairs b) :=
  h.product h

/-- `make_viewnames` receives the keys of a dictionary: the same distinct path names listed in any
order give the same views in the same order, with and without the reciprocity filter -/
theorem viewnames_perm_invariant (names names' : List Word) (hp : names.Perm names') (hn : names.Nodup) (u : Bool) :
    makeViewnames names' u = makeViewnames names u := by
  have hn' : names'.Nodup := hp.nodup_iff.mp hn
  have h0 : makeViewnames names' false = makeViewnames names false :=
    viewnames_unique_order' names (makeViewnames names' false)
      ((viewnames_all_pairs names').trans (allPairs_perm hp.symm)) (viewnames_strict_sorted names' hn')
  cases u with
  | false => exact h0
  | true =>
    rw [makeViewnames_true, makeViewnames_true, h0]

example : makeViewnames [['T'], ['L','T'], ['L'], ['T','L']] true = makeViewnames [['L'], ['T'], ['L','T'], ['T','L']] true := by decide +kernel

/-- `make_viewnames([])` and `filter_unique_views([])` return `[]` (an implementation that unzips
its argument first would raise here) -/
theorem viewnames_empty (u : Bool) : makeViewnames [] u = [] := by cases u <;> rfl

theorem viewnames_single_eq (w : Word) (u : Bool) : makeViewnames [w] u = [(w, w)] := by
  cases u <;> rfl

theorem viewnames_single (w : Word) (u : Bool) : (makeViewnames [w] u).length = 1 := by
  rw [viewnames_single_eq]; rfl

end Arim.C18
