import ArimModel.ScatMat
import ArimProofs.Tie.C10
import ArimProofs.Lemmas.ScatMat
import ArimProofs.Lemmas.Dft
import Mathlib.Algebra.Order.Floor.Ring
import Mathlib.Data.Rat.Floor
import Mathlib.Tactic.Ring
import Mathlib.Tactic.LinearCombination
import Mathlib.Tactic.NormNum
/-! # C10 — scattering matrices faithfully represent, interpolate and rotate the functions

The discrete Fourier transform with its inversion and root-of-unity facts is in `Lemmas/Dft.lean` (the shift theorems
`idft_shift`, `idft_periodic`, `idft2_shift` stand here: C11 uses them too), the closed form of `interp` and the segment
search of `freqInterp` in `Lemmas/ScatMat.lean`, the tie to the translated kernel in `Tie/C10.lean`. -/
namespace Arim.C10
open Arim.ScatMat Arim.ScatMatLemmas

/-- the matrix holds at `[j][i]` the function value for incident angle `θ_i` and scattered
angle `θ_j` -/
theorem asMatrix_entry {K : Type} [Add K] [Sub K] [Mul K] [Div K] [Neg K]
    (o : FOps K) (pi : K) (n : Nat) (f : K → K → K) (j i : Nat) :
    asMatrix o pi n f j i = f (angle o pi n i) (angle o pi n j) := rfl

section dft
open Complex Finset
open scoped Real

/-- the DFT shift theorem: multiplying bin `k` by `e^{-2πi k m/n}` delays the signal by `m` samples (what `rotate_matrix`
does along each axis for `φ = 2πm/n`) -/
theorem idft_shift (X : ℕ → ℂ) (n : ℕ) (j m : ℤ) :
    idft (fun k => X k * exp (-(2 * π * I * (m * k / n)))) n j = idft X n (j - m) := by
  rw [idft_eq, idft_eq]
  congr 1
  refine sum_congr rfl fun k _ => ?_
  rw [exp_neg_eq_rootPow, mul_assoc, ← rootPow_add, ← add_mul, neg_add_eq_sub]

/-- the back-transform is `n`-periodic, so the delay is a circular shift of the indices -/
theorem idft_periodic (X : ℕ → ℂ) (n : ℕ) (hn : n ≠ 0) (j : ℤ) :
    idft X n (j + n) = idft X n j := by
  simpa using idft_add_mul X n hn j 1

/-- multiplying bin `(k₁, k₂)` by `e^{-2πi (k₁ + k₂) m/n}` (the `freqshift` of `rotate_matrix` for `φ = 2πm/n`, see
`freqshift_eq`) shifts both indices of the back-transformed matrix by `m` -/
theorem idft2_shift (X : ℕ → ℕ → ℂ) (n : ℕ) (a b m : ℤ) :
    idft2 (fun k₁ k₂ => X k₁ k₂ * exp (-(2 * π * I * (m * k₁ / n))) * exp (-(2 * π * I * (m * k₂ / n))))
      n a b = idft2 X n (a - m) (b - m) := by
  unfold idft2
  rw [← idft_shift]
  congr 1
  funext k₁
  rw [← idft_shift, ← idft_mul_const]
  congr 1
  funext k₂
  ring

theorem idft2_periodic (X : ℕ → ℕ → ℂ) (n : ℕ) (hn : n ≠ 0) (a b : ℤ) :
    idft2 X n (a + n) b = idft2 X n a b ∧ idft2 X n a (b + n) = idft2 X n a b := by
  unfold idft2
  exact ⟨idft_periodic _ n hn a, by simp only [idft_periodic _ n hn b]⟩

theorem idft2_rotate (M : ℕ → ℕ → ℂ) (n : ℕ) (hn : n ≠ 0) (m a b : ℤ) :
    idft2 (fun k₁ k₂ => dft2 M n k₁ k₂ * exp (-(2 * π * I * (m * k₁ / n)))
        * exp (-(2 * π * I * (m * k₂ / n)))) n a b = M ((a - m) % n).toNat ((b - m) % n).toNat := by
  obtain ⟨h1, e1⟩ := emod_toNat n hn (a - m)
  obtain ⟨h2, e2⟩ := emod_toNat n hn (b - m)
  rw [idft2_shift, ← idft2_emod _ n hn, ← idft2_dft2 M n _ _ h1 h2, e1, e2]

/-- `rotate_matrix(M, 2πm/n)`: transforming, multiplying bin `(k₁, k₂)` by `e^{-2πi (k₁+k₂) m/n}` and transforming back
shifts both indices circularly by `m` -/
theorem rotate_shift (M : ℕ → ℕ → ℂ) (n : ℕ) (m : ℤ) (j i : ℕ) (hj : j < n) (hi : i < n) :
    idft2 (fun k₁ k₂ => dft2 M n k₁ k₂ * exp (-(2 * π * I * (m * k₁ / n)))
        * exp (-(2 * π * I * (m * k₂ / n)))) n j i = rotateShift n M m j i :=
  idft2_rotate M n (Nat.ne_zero_of_lt hj) m j i

/-- the phase factor `freqshift[k₁,k₂] = exp(-2πi (freq[k₁] + freq[k₂]) φ)` of `rotate_matrix`, with
`freq = fftfreq(n, 2π/n)` (so `freq[k] = fftfreqIdx n k / 2π`) and `φ = 2π m / n`, is the product of the two factors of
`idft2_shift` / `rotate_shift`: the aliasing is invisible -/
theorem freqshift_eq (n : ℕ) (hn : n ≠ 0) (m : ℤ) (k₁ k₂ : ℕ) :
    exp (-(2 * π * I * (((fftfreqIdx n k₁ : ℂ) / (2 * π) + (fftfreqIdx n k₂ : ℂ) / (2 * π))
        * (2 * π * m / n)))) =
      exp (-(2 * π * I * (m * k₁ / n))) * exp (-(2 * π * I * (m * k₂ / n))) := by
  have hpi : (2 * π : ℂ) ≠ 0 := mul_ne_zero two_ne_zero (ofReal_ne_zero.2 Real.pi_ne_zero)
  -- right side: under a root of unity `k` may be replaced by `fftfreqIdx n k` (they differ by a multiple of `n`), and the
  -- two factors combine into `rootPow n (−m · (fftfreqIdx n k₁ + fftfreqIdx n k₂))`; on the left `2π` cancels
  rw [exp_neg_eq_rootPow, exp_neg_eq_rootPow, ← rootPow_mul_fftfreqIdx hn, ← rootPow_mul_fftfreqIdx hn (-m),
    ← rootPow_add, ← mul_add, rootPow, ← add_div, div_mul_div_comm, mul_left_comm _ (2 * π : ℂ),
    mul_div_mul_left _ _ hpi]
  congr 1
  push_cast
  ring
end dft

section grid
variable {K : Type} [Field K] [LinearOrder K] [IsStrictOrderedRing K] [FloorRing K]

/-- exact floor and integer embedding of a floor ring -/
def stdF : FOps K := { floor := Int.floor, ofInt := fun z => (z : K) }

omit [IsStrictOrderedRing K] in
theorem natCast_mul_step (pi : K) (n : ℕ) (hn : 1 ≤ n) : (n : K) * (2 * pi / n) = 2 * pi :=
  mul_div_cancel₀ _ (Nat.cast_ne_zero.2 (by omega))

omit [FloorRing K] in
theorem step_ne_zero (pi : K) (hpi : 0 < pi) (n : ℕ) (hn : 1 ≤ n) : 2 * pi / (n : K) ≠ 0 :=
  div_ne_zero (mul_ne_zero two_ne_zero hpi.ne') (Nat.cast_ne_zero.2 (Nat.one_le_iff_ne_zero.1 hn))

theorem cell_eq_floor_fract (pi : K) (hpi : 0 < pi) (n : ℕ) (hn : 1 ≤ n) (θ : K) :
    cell stdF pi n θ = ((⌊(θ + pi) / (2 * pi / n)⌋ % (n : ℤ)).toNat, Int.fract ((θ + pi) / (2 * pi / n))) := by
  simp only [cell, fdiv, fmod, stdF, Int.cast_ofNat, Int.cast_natCast]
  rw [sub_div, mul_div_cancel_left₀ _ (step_ne_zero pi hpi n hn), Int.fract]

omit [IsStrictOrderedRing K] in
theorem angle_std (pi : K) (n i : ℕ) : angle stdF pi n i = -pi + i * (2 * pi / n) := by
  simp only [angle, stdF, Int.cast_natCast, sub_neg_eq_add, ← two_mul]

/-- the grid coordinate `(θ + π)/dθ` of an angle advances by `n` per period -/
theorem coord_add_period (pi : K) (hpi : 0 < pi) (n : ℕ) (hn : 1 ≤ n) (θ : K) (k : ℤ) :
    (θ + 2 * pi * k + pi) / (2 * pi / n) = (θ + pi) / (2 * pi / n) + ((n * k : ℤ) : K) := by
  have e : 2 * pi * (k : K) = n * k * (2 * pi / n) := by
    rw [mul_right_comm (n : K), natCast_mul_step pi n hn]
  rw [add_right_comm, add_div, e, mul_div_cancel_right₀ _ (step_ne_zero pi hpi n hn), Int.cast_mul,
    Int.cast_natCast]

theorem coord_angle (pi : K) (hpi : 0 < pi) (n : ℕ) (hn : 1 ≤ n) (i : ℕ) (a : K) :
    (angle stdF pi n i + a * (2 * pi / n) + pi) / (2 * pi / n) = a + ((i : ℤ) : K) := by
  rw [angle_std, add_right_comm, add_right_comm (-pi), neg_add_cancel, zero_add, ← add_mul,
    mul_div_cancel_right₀ _ (step_ne_zero pi hpi n hn), Int.cast_natCast, add_comm]

theorem cell_spec (pi : K) (hpi : 0 < pi) (n : ℕ) (hn : 1 ≤ n) (θ : K) :
    (cell stdF pi n θ).1 < n ∧ 0 ≤ (cell stdF pi n θ).2 ∧ (cell stdF pi n θ).2 < 1 ∧
    ∃ q : ℤ, θ + pi = 2 * pi / n * (q * n + (cell stdF pi n θ).1 + (cell stdF pi n θ).2) := by
  rw [cell_eq_floor_fract pi hpi n hn θ]
  refine ⟨(emod_toNat n (by omega) _).1, Int.fract_nonneg _, Int.fract_lt_one _,
    ⌊(θ + pi) / (2 * pi / n)⌋ / (n : ℤ), ?_⟩
  rw [cast_toNat_emod n (by omega), mul_comm (_ : K) (n : K), add_sub_cancel, Int.floor_add_fract,
    mul_div_cancel₀ _ (step_ne_zero pi hpi n hn)]

theorem cell_spec' (pi : K) (hpi : 0 < pi) (n : ℕ) (hn : 1 ≤ n) (θ : K) :
    ∃ q : ℤ, θ = angle stdF pi n (cell stdF pi n θ).1 + (cell stdF pi n θ).2 * (2 * pi / n)
      + 2 * pi * q := by
  obtain ⟨_, _, _, q, hq⟩ := cell_spec pi hpi n hn θ
  refine ⟨q, ?_⟩
  rw [angle_std]
  linear_combination hq + (q : K) * natCast_mul_step pi n hn

theorem cell_periodic (pi : K) (hpi : 0 < pi) (n : ℕ) (hn : 1 ≤ n) (θ : K) (k : ℤ) :
    cell stdF pi n (θ + 2 * pi * k) = cell stdF pi n θ := by
  rw [cell_eq_floor_fract pi hpi n hn, cell_eq_floor_fract pi hpi n hn, coord_add_period pi hpi n hn,
    Int.floor_add_intCast, Int.fract_add_intCast, Int.add_mul_emod_self_left]

theorem cell_eq (pi : K) (hpi : 0 < pi) (n : ℕ) (i : ℕ) (hi : i < n) (a : K) (ha0 : 0 ≤ a)
    (ha1 : a < 1) (k : ℤ) :
    cell stdF pi n (angle stdF pi n i + a * (2 * pi / n) + 2 * pi * k) = (i, a) := by
  have hn : 1 ≤ n := by omega
  -- drop the period; the grid coordinate is `a + i` (`coord_angle`), with floor `i` and fractional part `a` since
  -- `0 ≤ a < 1`; and `i % n = i`
  rw [cell_periodic pi hpi n hn, cell_eq_floor_fract pi hpi n hn, coord_angle pi hpi n hn,
    Int.floor_add_intCast, Int.fract_add_intCast, Int.floor_eq_zero_iff.2 ⟨ha0, ha1⟩,
    Int.fract_eq_iff.2 ⟨ha0, ha1, 0, by simp⟩, zero_add, Int.emod_eq_of_lt (by omega) (by omega), Int.toNat_natCast]

/-- for `i = 0` this is the seam: `θ = -π + 2πk`, and so `θ = π`, gives index `0` -/
theorem cell_node (pi : K) (hpi : 0 < pi) (n : ℕ) (i : ℕ) (hi : i < n) (k : ℤ) :
    cell stdF pi n (angle stdF pi n i + 2 * pi * k) = (i, 0) := by
  simpa only [zero_mul, add_zero] using cell_eq pi hpi n i hi 0 le_rfl zero_lt_one k

/-- bilinear in the cell, with the neighbours of the last node wrapping round to index `0` (the `±π` seam); the angles may
be given in any period -/
theorem interp_bilinear_period (pi : K) (hpi : 0 < pi) (n : ℕ) (m : ℕ → ℕ → K) (i j : ℕ)
    (hi : i < n) (hj : j < n) (a b : K) (ha0 : 0 ≤ a) (ha1 : a < 1) (hb0 : 0 ≤ b) (hb1 : b < 1)
    (k k' : ℤ) :
    interp stdF pi n m (angle stdF pi n i + a * (2 * pi / n) + 2 * pi * k)
        (angle stdF pi n j + b * (2 * pi / n) + 2 * pi * k') =
      (1 - a) * (1 - b) * m j i + a * (1 - b) * m j (if i = n - 1 then 0 else i + 1)
      + (1 - a) * b * m (if j = n - 1 then 0 else j + 1) i
      + a * b * m (if j = n - 1 then 0 else j + 1) (if i = n - 1 then 0 else i + 1) := by
  rw [interp_eq_cells, cell_eq pi hpi n i hi a ha0 ha1 k, cell_eq pi hpi n j hj b hb0 hb1 k']

/-- `interp_bilinear_period` in the base period -/
theorem interp_bilinear (pi : K) (hpi : 0 < pi) (n : ℕ) (m : ℕ → ℕ → K) (i j : ℕ)
    (hi : i < n) (hj : j < n) (a b : K) (ha0 : 0 ≤ a) (ha1 : a < 1) (hb0 : 0 ≤ b) (hb1 : b < 1) :
    interp stdF pi n m (angle stdF pi n i + a * (2 * pi / n))
        (angle stdF pi n j + b * (2 * pi / n)) =
      (1 - a) * (1 - b) * m j i + a * (1 - b) * m j (if i = n - 1 then 0 else i + 1)
      + (1 - a) * b * m (if j = n - 1 then 0 else j + 1) i
      + a * b * m (if j = n - 1 then 0 else j + 1) (if i = n - 1 then 0 else i + 1) := by
  simpa only [Int.cast_zero, mul_zero, add_zero] using
    interp_bilinear_period pi hpi n m i j hi hj a b ha0 ha1 hb0 hb1 0 0

/-- the interpolant reproduces the matrix entries at the nodes (index order: `m out_index inc_index`), in any period -/
theorem interp_node (pi : K) (hpi : 0 < pi) (n : ℕ) (m : ℕ → ℕ → K) (i j : ℕ)
    (hi : i < n) (hj : j < n) (k k' : ℤ) :
    interp stdF pi n m (angle stdF pi n i + 2 * pi * k) (angle stdF pi n j + 2 * pi * k') = m j i := by
  simpa only [zero_mul, add_zero, sub_zero, one_mul, mul_zero] using
    interp_bilinear_period pi hpi n m i j hi hj 0 0 le_rfl zero_lt_one le_rfl zero_lt_one k k'

theorem interp_periodic (pi : K) (hpi : 0 < pi) (n : ℕ) (hn : 1 ≤ n) (m : ℕ → ℕ → K)
    (inc out : K) (k : ℤ) :
    interp stdF pi n m (inc + 2 * pi * k) out = interp stdF pi n m inc out ∧
    interp stdF pi n m inc (out + 2 * pi * k) = interp stdF pi n m inc out := by
  simp only [interp_eq_cells, cell_periodic pi hpi n hn, and_self]

/-- all four matrix indices used by `interp` are in range, for any angle (negative, several periods away, ...) -/
theorem interp_idx_range (pi : K) (hpi : 0 < pi) (n : ℕ) (hn : 1 ≤ n) (θ : K) :
    (cell stdF pi n θ).1 < n ∧
      (if (cell stdF pi n θ).1 = n - 1 then 0 else (cell stdF pi n θ).1 + 1) < n := by
  have h := (cell_spec pi hpi n hn θ).1
  refine ⟨h, ?_⟩
  split_ifs <;> omega

/-- at the grid nodes the interpolated matrix of a function returns the function -/
theorem interp_asMatrix_node (pi : K) (hpi : 0 < pi) (n : ℕ) (f : K → K → K) (i j : ℕ)
    (hi : i < n) (hj : j < n) (k k' : ℤ) :
    interp stdF pi n (asMatrix stdF pi n f) (angle stdF pi n i + 2 * pi * k)
      (angle stdF pi n j + 2 * pi * k') = f (angle stdF pi n i) (angle stdF pi n j) := by
  rw [interp_node pi hpi n _ i j hi hj, asMatrix_entry]

omit [Field K] [LinearOrder K] [IsStrictOrderedRing K] [FloorRing K] in
theorem rotateShift_spec (n : ℕ) (m : ℕ → ℕ → K) (k : ℤ) (j i : ℕ) :
    rotateShift n m k j i = m (((j : ℤ) - k) % n).toNat (((i : ℤ) - k) % n).toNat := rfl

omit [IsStrictOrderedRing K] in
/-- the grid angle with circularly shifted index is the rotated angle, up to a period -/
theorem angle_shift (pi : K) (n : ℕ) (hn : 1 ≤ n) (i : ℕ) (k : ℤ) :
    angle stdF pi n (((i : ℤ) - k) % n).toNat
      = angle stdF pi n i - k * (2 * pi / n) + 2 * pi * (-(((i : ℤ) - k) / n) : ℤ) := by
  have h := natCast_mul_step pi n hn
  rw [angle_std, angle_std, cast_toNat_emod n (by omega)]
  -- with the step `d` a variable and `2π = n·d`, what is left is an identity of commutative rings
  generalize 2 * pi / (n : K) = d at h ⊢
  rw [← h]
  push_cast
  ring

omit [IsStrictOrderedRing K] in
/-- rotation of the scatterer: for a scattering function that is `2π`-periodic in both angles, shifting both indices by
`k` gives the matrix of `S'(θ₁, θ₂) = S(θ₁ − φ, θ₂ − φ)`, `φ = k·dθ` -/
theorem rotateShift_asMatrix (pi : K) (n : ℕ) (hn : 1 ≤ n) (f : K → K → K)
    (hper₁ : ∀ x y (q : ℤ), f (x + 2 * pi * q) y = f x y)
    (hper₂ : ∀ x y (q : ℤ), f x (y + 2 * pi * q) = f x y) (k : ℤ) (j i : ℕ) :
    rotateShift n (asMatrix stdF pi n f) k j i
      = asMatrix stdF pi n (fun x y => f (x - k * (2 * pi / n)) (y - k * (2 * pi / n))) j i := by
  rw [rotateShift_spec, asMatrix_entry, asMatrix_entry, angle_shift pi n hn i k, angle_shift pi n hn j k, hper₁, hper₂]

/-! `Src.interpolate_scattering_matrix_kernel` (file `Generated/SrcC10.lean`) is the translation of
`arim._scat._interpolate_scattering_matrix_kernel`; for lawful numerical routines (`Tie.C10.Lawful`; the standard
routines of any floor field are lawful) `Tie.C10.tie_interp` identifies it with `interp`. -/
open Arim.Tie.C10

/-- the routines of the translated code in a floor field: `floor`, `int()` (truncation), integer embeddings; `pi` a
parameter.  `interpolate_scattering_matrix_kernel` calls only these five (`pi`, `ofNat`, `ofInt`, `floor`, `trunc`); the
other fields are placeholders never called here (`Int.floor` is not Python's `round`, `id` is no `sin` or `sinc`). -/
def srcOpsF (pi : K) : Src.Ops K :=
  { sin := id, cos := id, asin := id, sqrt := id, exp := id, sinc := id, pi := pi,
    ofNat := fun n => (n : K), ofInt := fun z => (z : K), floor := Int.floor, round := Int.floor,
    trunc := fun x => if 0 ≤ x then ⌊x⌋ else ⌈x⌉ }

omit [IsStrictOrderedRing K] in
theorem fops_srcOpsF (pi : K) : fops (srcOpsF pi) = stdF := rfl

theorem lawful_srcOpsF (pi : K) : Lawful (srcOpsF pi) where
  ofNat_eq n := by simp [srcOpsF]
  trunc_ofInt z := by
    simp only [srcOpsF]
    split <;> simp
  floor_ofInt_div a n hn := by
    simp only [srcOpsF, Int.cast_natCast]
    rw [Int.floor_div_natCast, Int.floor_intCast]
  ofInt_sub_mul a b c := by simp [srcOpsF]

theorem src_kernel_eq (pi : K) (n : ℕ) (hn : 1 ≤ n) (m : ℕ → ℕ → K) (inc out : K) :
    Src.interpolate_scattering_matrix_kernel (srcOpsF pi) m n inc out = interp stdF pi n m inc out :=
  tie_interp _ (lawful_srcOpsF pi) m n hn inc out

/-- the translated kernel reproduces the matrix at its nodes, in any period -/
theorem src_interp_node (pi : K) (hpi : 0 < pi) (n : ℕ) (m : ℕ → ℕ → K) (i j : ℕ)
    (hi : i < n) (hj : j < n) (k l : ℤ) :
    Src.interpolate_scattering_matrix_kernel (srcOpsF pi) m n
      (angle stdF pi n i + 2 * pi * k) (angle stdF pi n j + 2 * pi * l) = m j i := by
  rw [src_kernel_eq pi n (by omega), interp_node pi hpi n m i j hi hj k l]

/-- the translated kernel wraps around: it is `2π`-periodic in each angle -/
theorem src_interp_periodic (pi : K) (hpi : 0 < pi) (n : ℕ) (hn : 1 ≤ n) (m : ℕ → ℕ → K)
    (inc out : K) (k l : ℤ) :
    Src.interpolate_scattering_matrix_kernel (srcOpsF pi) m n (inc + 2 * pi * k) (out + 2 * pi * l) =
      Src.interpolate_scattering_matrix_kernel (srcOpsF pi) m n inc out := by
  rw [src_kernel_eq pi n hn, src_kernel_eq pi n hn, (interp_periodic pi hpi n hn m inc _ k).1,
    (interp_periodic pi hpi n hn m inc out l).2]

end grid

section freq
variable {K : Type} [Field K] [LinearOrder K]

/-- a single frequency sample is used at every frequency -/
theorem freq_single (f0 v f : K) : freqInterp [f0] [v] f = some v := rfl

/-- for strictly increasing `freqs`, the chord of segment `k` is returned whenever `f` lies in `[freqs[k], freqs[k+1]]`,
where the first segment is extended to `-∞` and the last one to `+∞` -/
theorem freq_segment (freqs vals : List K) (hlen : freqs.length = vals.length)
    (hs : freqs.Pairwise (· < ·)) (k : ℕ) (hk : k + 1 < freqs.length) (f : K)
    (hlo : k = 0 ∨ freqs[k]'(Nat.lt_of_succ_lt hk) ≤ f) (hhi : k + 2 = freqs.length ∨ f ≤ freqs[k+1]'hk) :
    freqInterp freqs vals f =
      some (chord (freqs[k]'(Nat.lt_of_succ_lt hk)) (freqs[k+1]'hk) (vals[k]'(hlen ▸ Nat.lt_of_succ_lt hk))
        (vals[k+1]'(hlen ▸ hk)) f) := by
  induction k generalizing freqs vals with
  | zero => exact freqInterp_head freqs vals hlen hk f hhi
  | succ k ih =>
    match freqs, vals, hlen with
    | f0 :: ft, v0 :: vt, hlen =>
      have hk' : k + 1 < ft.length := Nat.lt_of_succ_lt_succ hk
      have hlo' : ft[k]'(Nat.lt_of_succ_lt hk') ≤ f := hlo.resolve_left (Nat.succ_ne_zero k)
      rw [freqInterp_cons f0 ft v0 vt (Nat.succ_injective hlen) hs (Nat.lt_of_le_of_lt (Nat.le_add_left 1 k) hk') f k
        (Nat.lt_of_succ_lt hk') hlo']
      exact ih ft vt (Nat.succ_injective hlen) hs.tail hk' (Or.inr hlo') (hhi.imp (fun h => Nat.succ_injective h) id)

/-- linear between neighbouring samples -/
theorem freq_linear (freqs vals : List K) (hlen : freqs.length = vals.length)
    (hs : freqs.Pairwise (· < ·)) (k : ℕ) (hk : k + 1 < freqs.length) (f : K)
    (hlo : freqs[k] ≤ f) (hhi : f ≤ freqs[k+1]) :
    freqInterp freqs vals f =
      some (vals[k] + (vals[k+1] - vals[k]) * (f - freqs[k]) / (freqs[k+1] - freqs[k])) :=
  freq_segment freqs vals hlen hs k hk f (Or.inr hlo) (Or.inr hhi)

/-- below the first sample the first segment is extrapolated -/
theorem freq_extrapolate_below (freqs vals : List K) (hlen : freqs.length = vals.length)
    (hs : freqs.Pairwise (· < ·)) (h2 : 2 ≤ freqs.length) (f : K) (hf : f ≤ freqs[0]) :
    freqInterp freqs vals f =
      some (vals[0] + (vals[1] - vals[0]) * (f - freqs[0]) / (freqs[1] - freqs[0])) :=
  freq_segment freqs vals hlen hs 0 h2 f (Or.inl rfl) (Or.inr (hf.trans (lt_succ_of_pairwise hs 0 h2).le))

/-- above the last sample the last segment is extrapolated -/
theorem freq_extrapolate_above (freqs vals : List K) (hlen : freqs.length = vals.length)
    (hs : freqs.Pairwise (· < ·)) (h2 : 2 ≤ freqs.length) (f : K)
    (hf : freqs[freqs.length - 1] ≤ f) :
    freqInterp freqs vals f =
      some (vals[freqs.length - 2] + (vals[freqs.length - 2 + 1] - vals[freqs.length - 2])
        * (f - freqs[freqs.length - 2]) / (freqs[freqs.length - 2 + 1] - freqs[freqs.length - 2])) := by
  have e : freqs.length - 2 + 1 = freqs.length - 1 := by omega
  have hk : freqs.length - 2 + 1 < freqs.length := by omega
  refine freq_segment freqs vals hlen hs (freqs.length - 2) hk f
    (Or.inr ((lt_succ_of_pairwise hs _ hk).le.trans ?_)) (Or.inl (by omega))
  simpa only [e] using hf

/-- the data are reproduced at the sampled frequencies -/
theorem freq_node (freqs vals : List K) (hlen : freqs.length = vals.length)
    (hs : freqs.Pairwise (· < ·)) (h2 : 2 ≤ freqs.length) (k : ℕ) (hk : k < freqs.length) :
    freqInterp freqs vals freqs[k] = some vals[k] := by
  by_cases hk1 : k + 1 < freqs.length
  · rw [freq_segment freqs vals hlen hs k hk1 _ (Or.inr le_rfl) (Or.inr (lt_succ_of_pairwise hs k hk1).le),
      chord_left]
  · obtain ⟨k', rfl⟩ : ∃ k', k = k' + 1 := ⟨k - 1, by omega⟩
    have h01 := lt_succ_of_pairwise hs k' hk
    rw [freq_segment freqs vals hlen hs k' hk _ (Or.inr h01.le) (Or.inl (by omega)), chord_right _ _ _ _ h01.ne]
end freq

section examples
private theorem t2 : Int.toNat 2 = 2 := rfl
/-- a 3×3 test matrix, `M[j][i] = 10 j + i` -/
def M3 : ℕ → ℕ → ℚ := fun j i => 10 * j + i

example : cell stdF (22/7 : ℚ) 3 (-22/7) = (0, 0) := by decide +kernel
example : cell stdF (22/7 : ℚ) 3 (22/7) = (0, 0) := by decide +kernel
example : cell stdF (22/7 : ℚ) 3 (-100) = (1, 17/22) := by decide +kernel
example : angle stdF (22/7 : ℚ) 3 2 = 22/21 := by decide +kernel
-- node values, also several periods away
example : interp stdF (22/7 : ℚ) 3 M3 (22/21) (-22/21) = M3 1 2 := by decide +kernel
example : interp stdF (22/7 : ℚ) 3 M3 (22/21 + 5 * (44/7)) (-22/21 - 3 * (44/7)) = 12 := by decide +kernel
-- the middle of the last cell in both directions wraps round to index 0
example : interp stdF (22/7 : ℚ) 3 M3 (22/21 + 22/21) (22/21 + 22/21)
    = (M3 2 2 + M3 2 0 + M3 0 2 + M3 0 0) / 4 := by decide +kernel
example : rotateShift 3 M3 1 0 0 = M3 2 2 := by decide +kernel
example : rotateShift 3 M3 (-4) 2 1 = M3 0 2 := by decide +kernel
example : freqInterp [(1:ℚ), 2, 4] [10, 20, 0] 3 = some 10 := by decide +kernel
example : freqInterp [(1:ℚ), 2, 4] [10, 20, 0] 5 = some (-10) := by decide +kernel
example : freqInterp [(1:ℚ), 2, 4] [10, 20, 0] 0 = some 0 := by decide +kernel
example : freqInterp [(1:ℚ), 2, 4] [10, 20, 0] 2 = some 20 := by decide +kernel
example : freqInterp ([] : List ℚ) [] 2 = none := rfl

-- the general theorems instantiated on the same data (their hypotheses are satisfiable)
example : (cell stdF (22/7 : ℚ) 3 (-100)).1 < 3 :=
  (cell_spec (22/7) (by norm_num) 3 (by norm_num) (-100)).1
example : interp stdF (22/7 : ℚ) 3 M3 (angle stdF (22/7) 3 2 + 2 * (22/7) * ((5 : ℤ) : ℚ))
    (angle stdF (22/7) 3 1 + 2 * (22/7) * ((-3 : ℤ) : ℚ)) = M3 1 2 :=
  interp_node (22/7) (by norm_num) 3 M3 2 1 (by norm_num) (by norm_num) 5 (-3)
example : freqInterp [(1:ℚ), 2, 4] [10, 20, 0] ([(1:ℚ), 2, 4][1]) = some ([(10:ℚ), 20, 0][1]) :=
  freq_node [1, 2, 4] [10, 20, 0] rfl (by decide +kernel) (by decide) 1 (by decide)
end examples
end Arim.C10
