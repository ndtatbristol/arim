import ArimModel.RayGeom
import ArimProofs.Generated.SrcC05
/-! # C05 — tie between the generated translation of `_signed_leg_angle` and the model -/
namespace Arim.Tie.C05
open Arim.RayGeom

variable {K : Type} [Add K] [Sub K] [Mul K] [Div K] [Neg K] [LT K] [DecidableLT K] [LE K] [DecidableLE K]

/-- the routines of the translated code seen as the model's `Trig` (`two` is the literal `2`) -/
def trig (o : Src.Ops K) (acos : K → K) (atan2 : K → K → K) : Trig K :=
  { sqrt := o.sqrt, acos := acos, atan2 := atan2, pi := o.pi, two := o.ofNat 2 }

theorem tie_signed_leg_angle (o : Src.Ops K) (acos : K → K) (atan2 : K → K → K) (polar azimuth : K) :
    Src.signed_leg_angle o polar azimuth = signedLegAngle (trig o acos atan2) polar azimuth := rfl

end Arim.Tie.C05
