import ArimModel.Geometry
import ArimProofs.Generated.SrcC17
/-! # C17 (C16) — tie between the generated translations of `rotation_matrix_x/y/z/ypr`, `to_gcs`, `from_gcs`, `rotate`
    and the model's definitions, which the theorems of C16 and C17 are about -/
namespace Arim.Tie.C17
open Arim.Geo

variable {K : Type} [Add K] [Sub K] [Mul K] [Div K] [Neg K]

/-- the literals `0`, `1` are `o.ofNat 0`, `o.ofNat 1`, as the code writes them -/
theorem tie_rotation_matrix_x (o : Src.Ops K) (θ : K) :
    Src.rotation_matrix_x o θ = rotX (o.ofNat 0) (o.ofNat 1) (o.cos θ) (o.sin θ) := rfl

theorem tie_rotation_matrix_y (o : Src.Ops K) (θ : K) :
    Src.rotation_matrix_y o θ = rotY (o.ofNat 0) (o.ofNat 1) (o.cos θ) (o.sin θ) := rfl

theorem tie_rotation_matrix_z (o : Src.Ops K) (θ : K) :
    Src.rotation_matrix_z o θ = rotZ (o.ofNat 0) (o.ofNat 1) (o.cos θ) (o.sin θ) := rfl

/-- `Rz(yaw) @ Ry(pitch) @ Rx(roll)`, the products associated as Python associates `@` -/
theorem tie_rotation_matrix_ypr (o : Src.Ops K) (yaw pitch roll : K) :
    Src.rotation_matrix_ypr o yaw pitch roll =
      rotYpr (o.ofNat 0) (o.ofNat 1) (o.cos yaw) (o.sin yaw) (o.cos pitch) (o.sin pitch) (o.cos roll) (o.sin roll) := rfl

theorem tie_to_gcs (o : Src.Ops K) (c : P3 K) (b : M3 K) (org : P3 K) : Src.to_gcs o c b org = toGcs c b org := rfl

theorem tie_from_gcs (o : Src.Ops K) (p : P3 K) (b : M3 K) (org : P3 K) : Src.from_gcs o p b org = fromGcs p b org := rfl

theorem tie_rotate_about_origin (o : Src.Ops K) (c : P3 K) (r : M3 K) : Src.rotate_about_origin o c r = rotate c r none := rfl

theorem tie_rotate_about_centre (o : Src.Ops K) (c : P3 K) (r : M3 K) (centre : P3 K) :
    Src.rotate_about_centre o c r centre = rotate c r (some centre) := rfl

end Arim.Tie.C17
