import ArimModel.Weights
import ArimProofs.Tie.C06
import ArimProofs.Generated.SrcC07
/-! # C07 — tie between the generated translation of `reverse_beamspread_2d_for_path` and the model -/
namespace Arim.Tie.C07
open Arim.Weights Arim.Src Arim.Tie.C06

variable {K : Type} [Add K] [Sub K] [Mul K] [Div K] [Neg K]

omit [Add K] [Neg K] in
/-- the factors of the reversed path are those `reverse_beamspread_2d_for_path` lists: step `k` looks at interface
`n - k` from the far side (`ifaces_reverse`) -/
theorem revGammas_reverse_range (o : Src.Ops K) (vel ang : Nat → K) (m : Nat) :
    revGammas (rtrig o) (velsOf vel (m + 1)).reverse (angsOf ang (m + 1)).reverse
      = (List.range' 1 m).map fun k =>
          revGammaF (rtrig o) (vel (m + 1 - k)) (vel (m + 1 - k - 1)) (ang (m + 1 - k)) := by
  rw [revGammas_eq_map, ifaces_reverse _ _ (by simp), velsOf, angsOf, Nat.add_sub_cancel,
    ifaces_range vel ang 0 m, List.map_map, reverse_map_range', List.range'_eq_map_range]
  simp only [List.map_map, Function.comp_def, Nat.zero_add, Nat.add_sub_cancel_left, Nat.add_comm m 1,
    Nat.add_sub_add_left]

/-- the translated `reverse_beamspread_2d_for_path` is the model's `revBeamspread` of the ray's leg
lengths, leg velocities and interior incidence angles -/
theorem tie_reverse_beamspread (o : Src.Ops K) (ni : Nat) (vel ang leg : Nat → K) (hn : 2 ≤ ni) :
    Src.reverse_beamspread_2d_for_path o ni vel ang leg =
      revBeamspread (rtrig o) (legsOf leg (ni - 1)) (velsOf vel (ni - 1)) (angsOf ang (ni - 1)) := by
  obtain ⟨m, rfl⟩ : ∃ m, ni = m + 2 := ⟨ni - 2, by omega⟩
  rw [revBeamspread_eq, rtrig_one, rtrig_sqrt, show m + 2 - 1 = m + 1 from rfl, revGammas_reverse_range, legsOf,
    reverse_map_range', Nat.add_sub_cancel_left, ← vdLoop_eq o (fun k => leg (m + 1 - k)) _ m (by simp),
    ← foldl_snoc_nil]
  -- as in `Tie.C06.tie_beamspread`: the generated code builds its gamma list by `++ [γ_k]` in a loop (`foldl_snoc_nil`
  -- read from right to left) and accumulates the legs from the far end, `leg (m + 1 - k)`; what is left is `vdLoop_eq`'s loop
  rfl

end Arim.Tie.C07
