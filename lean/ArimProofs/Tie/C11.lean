import ArimModel.TimeDomain
import ArimProofs.Generated.SrcC11
/-! # C11 — tie between the generated translation of the delay bookkeeping of `arim.model` and the model's `splitDelay`

`_timeshift_timedomain` (the numba kernel that adds each time-domain response onto a window of its output row) decides the
*whole-sample* part of the delay; its caller `transfer_func_to_timetraces` computes the *remainder* handed to the spectral
time shift.  The property needs the two to be the two halves of one split, `delay = q·dt + remainder` with
`q = ⌊delay/dt⌋`: the theorems below show that both, as the source states them on this run, are `splitDelay`. -/
namespace Arim.Tie.C11
open Arim.TD

variable {K : Type} [Add K] [Sub K] [Mul K] [Div K] [Neg K]

/-- the routines of the translated code seen as the model's `RT` (`ceil` is not used by the delay bookkeeping) -/
def rt (o : Src.Ops K) (ceil : K → Int) : RT K :=
  { sin := o.sin, cos := o.cos, pi := o.pi, ofNat := o.ofNat, ofInt := o.ofInt, floor := o.floor, ceil := ceil }

/-- the kernel: the window onto which row `idx` of the response is added starts `⌊delay/dt⌋ − t0_idx` samples into
the output row — the whole-sample part of the model's split — and is as long as the response -/
theorem tie_timeshift_window (o : Src.Ops K) (ceil : K → Int) (delays : Nat → K) (dt : K) (t0 : Int) (n idx : Nat) :
    Src.timeshift_window o delays dt t0 n idx =
      ((splitDelay (rt o ceil) (delays idx) dt).1 - t0, (splitDelay (rt o ceil) (delays idx) dt).1 - t0 + (n : Int)) := rfl

/-- the caller: the remainder given to the spectral time shift is the remainder of the same split -/
theorem tie_delay_remainder (o : Src.Ops K) (ceil : K → Int) (delay dt : K) :
    Src.delay_remainder o delay dt = (splitDelay (rt o ceil) delay dt).2 := rfl

/-- the two sites use one and the same quotient: window start + t0 is exactly the `q` whose `q·dt` the caller subtracts -/
theorem tie_split_consistent (o : Src.Ops K) (delays : Nat → K) (dt : K) (t0 : Int) (n idx : Nat) :
    Src.delay_remainder o (delays idx) dt
      = delays idx - o.ofInt ((Src.timeshift_window o delays dt t0 n idx).1 + t0) * dt := by
  simp only [Src.delay_remainder, Src.timeshift_window, Int.sub_add_cancel]

end Arim.Tie.C11
