import ArimModel.MinPlus
import ArimModel.Fermat
import ArimProofs.Generated.SrcC01
import ArimProofs.Lemmas.MinPlus
import ArimProofs.Lemmas.ListFold
import Mathlib.Order.Defs.LinearOrder
import Mathlib.Order.Basic
/-! # C01 — tie between the generated translation of the ray-tracing kernels and the model

`_find_minimum_times` (one output cell) against `minPlus`/`scanMin`; `_distance_pairwise` (one cell) against `dist3`;
`_expand_rays` (one ray) as a list. -/
namespace Arim.Tie.C01
open Arim

section minplus
variable {α : Type} [LinearOrder α]

/-- what the kernel leaves in a cell that held `(t0, i0)` on entry, given the model's answer for the candidates -/
def combine (t0 : α) (i0 : Int) : Option (α × Nat) → α × Int
  | none => (t0, i0)
  | some (v, k) => if v < t0 then (v, (k : Int)) else (t0, i0)

/-- one iteration of the translated loop body -/
def stepG (acc : α × Int) (k : Nat) (x : α) : α × Int := if x < acc.1 then (x, ((k : Nat) : Int)) else acc

/-- `combine t0 i0` carries the model's accumulator (`none` = nothing accepted yet) to the code's pair entered with
`(t0, i0)`, and commutes with one iteration: the hypothesis of `List.foldl_hom` in `tie_find_minimum_times` -/
theorem step_rel (t0 : α) (i0 : Int) (accM : Option (α × Nat)) (k : Nat) (x : α) :
    stepG (combine t0 i0 accM) k x = combine t0 i0 (kstep accM k x) := by
  cases accM with
  | none => rfl
  | some p =>
    obtain ⟨b, kb⟩ := p
    simp only [combine, kstep, stepG]
    by_cases hb : b < t0
    · by_cases hx : x < b
      · simp only [if_pos hb, if_pos hx, if_pos (hx.trans hb)]
      · simp only [if_pos hb, if_neg hx]
    · by_cases hx : x < b
      · simp only [if_neg hb, if_pos hx]
      · -- `t0 ≤ b ≤ x`: the candidate does not beat the entry value either
        simp only [if_neg hb, if_neg hx, if_neg fun h => hb ((not_lt.1 hx).trans_lt h)]

variable [Add α] [Sub α] [Mul α] [Div α] [Neg α]

/-- one output cell, entered with the values `(t0, i0)`; the call site enters with `(inf, -1)` -/
theorem tie_find_minimum_times (o : Src.Ops α) (t1 t2 : Nat → Nat → α) (t0 : α) (i0 : Int) (m i j : Nat) :
    Src.find_minimum_times_cell o t1 t2 t0 i0 m i j = combine t0 i0 (minPlus m t1 t2 i j) :=
  -- by unfolding, the generated body is the fold of `stepG` over `range m` and `minPlus` the fold of `kstep`
  List.foldl_hom (combine t0 i0) (l := List.range m) (init := none)
    (g₂ := fun acc k => stepG acc k (t1 i k + t2 k j)) fun acc k => step_rel t0 i0 acc k _

/-- with an entry value that every candidate beats (the code's `inf`), the cell holds the model's answer -/
theorem tie_find_minimum_times_inf (o : Src.Ops α) (t1 t2 : Nat → Nat → α) (inf : α) (m i j : Nat) (hm : 0 < m)
    (hinf : ∀ k, k < m → t1 i k + t2 k j < inf) :
    ∃ v k, minPlus m t1 t2 i j = some (v, k) ∧ Src.find_minimum_times_cell o t1 t2 inf (-1) m i j = (v, (k : Int)) := by
  obtain ⟨k, hk, hs⟩ := scanMin_some (fun k => t1 i k + t2 k j) hm
  exact ⟨_, k, hs, by rw [tie_find_minimum_times, minPlus, hs]; exact if_pos (hinf k hk)⟩

end minplus

section
variable {β : Type} [Add β] [Sub β] [Mul β] [Div β] [Neg β]

theorem tie_distance_pairwise (o : Src.Ops β) (x1 y1 z1 x2 y2 z2 : Nat → β) (i j : Nat) :
    Src.distance_pairwise_cell o x1 y1 z1 x2 y2 z2 i j = dist3 o.sqrt ⟨x1 i, y1 i, z1 i⟩ ⟨x2 j, y2 j, z2 j⟩ := rfl

/-- one ray `(i, j)`: the column of the ray from `i` to the winning point `new[i, j]` of the last interior interface,
followed by that point — the `ks ++ [k]` of the model's `scanMinR` -/
theorem tie_expand_rays (o : Src.Ops β) (interior : Nat → Nat → Nat → Int) (new : Nat → Nat → Int) (d i j : Nat) :
    Src.expand_rays_cell o interior new d i j =
      (List.range d).map (fun k => interior k i (new i j).toNat) ++ [new i j] :=
  congrArg (· ++ [new i j]) (foldl_snoc_nil _ _)

theorem tie_expand_rays_shape (o : Src.Ops β) (interior : Nat → Nat → Nat → Int) (new : Nat → Nat → Int) (d i j : Nat) :
    (Src.expand_rays_cell o interior new d i j).length = d + 1 ∧
    (Src.expand_rays_cell o interior new d i j).getLast? = some (new i j) ∧
    (Src.expand_rays_cell o interior new d i j).take d = (List.range d).map (fun k => interior k i (new i j).toNat) := by
  have hlen : ((List.range d).map fun k => interior k i (new i j).toNat).length = d := by
    rw [List.length_map, List.length_range]
  rw [tie_expand_rays]
  exact ⟨by rw [List.length_append, hlen, List.length_singleton], List.getLast?_concat ..,
    List.take_left' hlen⟩

end

end Arim.Tie.C01
