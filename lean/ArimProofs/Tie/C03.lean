import ArimModel.Assembly
import ArimProofs.Generated.SrcC03
/-! # C03 / C08 — tie between the structural translation of `block_in_immersion.tx_ray_weights` / `rx_ray_weights` and the
model's `txWeight` / `rxWeight`

The generated definitions state, from the source of this run: which `use_*` switch guards which factor, which model function
supplies it (the transmit side takes the forward transmission-reflection product in displacement units and the forward
beamspread, the receive side the reverse ones), the order of the product, and the `sqrt(lambda)` normalisation of the
receive side only.

C08's check audits these theorems as well (`USES` in `harness/srcspecs.py`): the statements of C08 about the ray weights
(`C08.src_tx_weights_product`, …) are about the same translated functions. -/
namespace Arim.Tie.C03
open Arim.Assembly

variable {C : Type} [Mul C]

theorem tie_tx_ray_weights (d b t a : Bool) (one : C) (f : Arim.SrcC03.Factors C) :
    Arim.SrcC03.tx_ray_weights d b t a one f
      = txWeight ⟨d, t, b, a⟩ one f.directivity f.transrefl_fwd_displacement f.beamspread_fwd f.attenuation := rfl

theorem tie_rx_ray_weights (d b t a : Bool) (one : C) (f : Arim.SrcC03.Factors C) :
    Arim.SrcC03.rx_ray_weights d b t a one f
      = rxWeight ⟨d, t, b, a⟩ one f.directivity f.transrefl_rev_displacement f.beamspread_rev f.attenuation f.sqrt_lambda_last_mode := rfl

end Arim.Tie.C03
