import ArimModel.ScatMat
import ArimProofs.Generated.SrcC10
import Mathlib.Algebra.Field.Basic
/-! # C10 — tie between the generated translation of `_interpolate_scattering_matrix_kernel` and the model

The translated kernel computes the cell index with Python's float `//`, `%` and `int()`; the model computes it on
integers. They agree as soon as the numerical routines are *lawful* (`Lawful`: the integer embedding commutes with the
operations used, `floor`/`int` invert it) — which holds for the standard routines of every floor field (`C10.lawful_srcOpsF`). -/
namespace Arim.Tie.C10
open Arim.ScatMat

variable {K : Type} [Field K]

/-- what the kernel needs from the numerical routines -/
structure Lawful (o : Src.Ops K) : Prop where
  ofNat_eq : ∀ n : Nat, o.ofNat n = o.ofInt (n : Int)
  trunc_ofInt : ∀ z : Int, o.trunc (o.ofInt z) = z
  floor_ofInt_div : ∀ (a : Int) (n : Nat), 0 < n → o.floor (o.ofInt a / o.ofInt (n : Int)) = a / (n : Int)
  ofInt_sub_mul : ∀ a b c : Int, o.ofInt a - o.ofInt b * o.ofInt c = o.ofInt (a - b * c)

/-- the model's view of the routines -/
def fops (o : Src.Ops K) : FOps K := { floor := o.floor, ofInt := o.ofInt }

/-- Python `int(q // 1 % n)` on a float that holds the integer `q` is the integer `q % n` -/
theorem idx_eq (o : Src.Ops K) (h : Lawful o) (q : Int) (n : Nat) (hn : 0 < n) :
    o.trunc (o.ofInt q - o.ofInt (o.floor (o.ofInt q / o.ofNat n)) * o.ofNat n) = q % (n : Int) := by
  rw [h.ofNat_eq, h.floor_ofInt_div q n hn, h.ofInt_sub_mul, h.trunc_ofInt, Int.emod_def, Int.mul_comm]

/-- for lawful routines the cell index as the translated code computes it is the model's (`G` for "generated": the
left side is the expression of the generated code with its `dtheta` written out, the shape in which the `simp only` of
`tie_interp` meets it) -/
theorem idxG_eq (o : Src.Ops K) (h : Lawful o) (n : Nat) (hn : 0 < n) (theta : K) :
    o.trunc (o.ofInt (o.floor ((theta + o.pi) / (o.ofNat 2 * o.pi / o.ofNat n)))
      - o.ofInt (o.floor (o.ofInt (o.floor ((theta + o.pi) / (o.ofNat 2 * o.pi / o.ofNat n))) / o.ofNat n)) * o.ofNat n)
      = ((cell (fops o) o.pi n theta).1 : Int) := by
  rw [idx_eq o h _ n hn, h.ofNat_eq, h.ofNat_eq]
  exact (Int.toNat_of_nonneg (Int.emod_nonneg _ (by omega))).symm

/-- … and so is the fraction within the cell (`G` as in `idxG_eq`) -/
theorem fracG_eq (o : Src.Ops K) (h : Lawful o) (n : Nat) (theta : K) :
    ((theta + o.pi) - o.ofInt (o.floor ((theta + o.pi) / (o.ofNat 2 * o.pi / o.ofNat n))) * (o.ofNat 2 * o.pi / o.ofNat n))
        / (o.ofNat 2 * o.pi / o.ofNat n) = (cell (fops o) o.pi n theta).2 := by
  rw [h.ofNat_eq, h.ofNat_eq, mul_comm]
  rfl

/-- the wrap-around of the next index, on integers (translated code) and on naturals (model) -/
theorem next_idx (i n : Nat) :
    (if (i : Int) ≠ (((n - 1 : Nat)) : Int) then (i : Int) + 1 else 0).toNat = (if i ≠ n - 1 then i + 1 else 0) := by
  rw [apply_ite Int.toNat]
  exact if_congr (not_congr Int.ofNat_inj) rfl rfl

/-- for lawful routines and a non-empty matrix, the translated kernel is the model's `interp` -/
theorem tie_interp (o : Src.Ops K) (h : Lawful o) (M : Nat → Nat → K) (n : Nat) (hn : 0 < n) (inc out : K) :
    Src.interpolate_scattering_matrix_kernel o M n inc out = interp (fops o) o.pi n M inc out := by
  simp only [Src.interpolate_scattering_matrix_kernel, idxG_eq o h n hn, fracG_eq o h n, next_idx, Int.toNat_natCast]
  rfl

end Arim.Tie.C10
