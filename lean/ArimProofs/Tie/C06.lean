import ArimModel.Weights
import ArimProofs.Generated.SrcC06
import ArimProofs.Lemmas.Ifaces
import ArimProofs.Lemmas.ListFold
import ArimProofs.Lemmas.SrcPrelude
/-! # C06 — tie between the generated translation of `beamspread_2d_for_path` and the model

The translated function takes the ray-geometry queries as functions of the interface index
(`velocities[k]`, `conventional_inc_angle(k)`, `inc_leg_size(k)`); the model takes the lists of leg lengths,
leg velocities and interior incidence angles of one ray. -/
namespace Arim.Tie.C06
open Arim.Weights Arim.Src

variable {K : Type} [Add K] [Sub K] [Mul K] [Div K] [Neg K]

/-- the routines of the translated code, seen as the model's `RTrig` -/
def rtrig (o : Src.Ops K) : RTrig K :=
  { sin := o.sin, cos := o.cos, sqrt := o.sqrt, exp := o.exp, one := o.ofNat 1, zero := o.ofNat 0 }

/-- leg lengths `r_1 … r_n` -/
def legsOf (leg : Nat → K) (n : Nat) : List K := (List.range' 1 n).map leg
/-- leg velocities `v_0 … v_{n-1}` -/
def velsOf (vel : Nat → K) (n : Nat) : List K := (List.range' 0 n).map vel
/-- incidence angles at the interior interfaces `1 … n-1` -/
def angsOf (ang : Nat → K) (n : Nat) : List K := (List.range' 1 (n - 1)).map ang

section lists
omit [Add K] [Sub K] [Mul K] [Div K] [Neg K]

@[simp] theorem rtrig_one (o : Src.Ops K) : (rtrig o).one = o.ofNat 1 := rfl
@[simp] theorem rtrig_sqrt (o : Src.Ops K) : (rtrig o).sqrt = o.sqrt := rfl

@[simp] theorem length_legsOf (leg : Nat → K) (n : Nat) : (legsOf leg n).length = n := by simp [legsOf]
@[simp] theorem length_velsOf (vel : Nat → K) (n : Nat) : (velsOf vel n).length = n := by simp [velsOf]
@[simp] theorem length_angsOf (ang : Nat → K) (n : Nat) : (angsOf ang n).length = n - 1 := by simp [angsOf]

theorem legsOf_map (g : K → K) (leg : Nat → K) (n : Nat) :
    legsOf (fun k => g (leg k)) n = (legsOf leg n).map g := by
  rw [legsOf, legsOf, List.map_map]; rfl

end lists

omit [Add K] [Neg K] in
theorem gammas_range (o : Src.Ops K) (vel ang : Nat → K) (m : Nat) :
    gammas (rtrig o) (velsOf vel (m + 1)) (angsOf ang (m + 1))
      = (List.range' 1 m).map fun k => gammaF (rtrig o) (vel (k - 1)) (vel k) (ang k) := by
  rw [gammas_eq_map, velsOf, angsOf, Nat.add_sub_cancel, ifaces_range vel ang 0 m, List.map_map]; rfl

omit [Sub K] [Neg K] in
/-- the accumulation loop shared by the direct and the reverse routine: leg `r 0` first, then leg `r k` at step `k`,
divided by the product of the first `k` entries of the gamma list `G` -/
theorem vdLoop_eq (o : Src.Ops K) (r : Nat → K) (G : List K) (m : Nat) (hG : G.length = m) :
    (pyRange 1 (m + 1)).foldl (fun vd k =>
        vd + r k / (List.range k).foldl (fun g i => g * pyGet G i (o.ofNat 0)) (o.ofNat 1)) (r 0)
      = virtualDistance (o.ofNat 1) ((List.range (m + 1)).map r) G := by
  rw [pyRange_eq_map, List.foldl_map, List.range_succ_eq_map, List.map_cons, List.map_map, Nat.add_sub_cancel,
    virtualDistance_cons, List.length_map, List.length_range]
  -- after these rewrites both sides are folds over `k < m`. At step `k` the inner loop of the code over `range (k + 1)`
  -- multiplies the entries of `G.take (k + 1)`: `k + 1 ≤ G.length`, so `pyGet` never returns its default
  refine foldl_congr_mem _ fun vd k hk => ?_
  have hk' : k < m := List.mem_range.1 hk
  rw [foldl_pyGet_range (· * ·) G _ (by omega), List.getD_eq_getElem?_getD, List.getElem?_map, List.getElem?_range hk',
    Nat.add_comm 1 k]
  rfl

/-- the virtual distance as the translated code accumulates it, for `n = m + 1` legs and a gamma list `G` -/
def vdGen (o : Src.Ops K) (leg : Nat → K) (G : List K) (m : Nat) : K :=
  (pyRange 1 (m + 1)).foldl (fun vd k =>
    vd + leg (k + 1) / (List.range k).foldl (fun g i => g * pyGet G i (o.ofNat 0)) (o.ofNat 1)) (leg 1)

omit [Sub K] [Neg K] in
theorem vdGen_eq (o : Src.Ops K) (leg : Nat → K) (G : List K) (m : Nat) (hG : G.length = m) :
    vdGen o leg G m = virtualDistance (o.ofNat 1) (legsOf leg (m + 1)) G := by
  rw [legsOf, List.range'_eq_map_range, List.map_map]
  simp only [Function.comp_def, Nat.add_comm 1]
  exact vdLoop_eq o (fun k => leg (k + 1)) G m hG

/-- the translated `beamspread_2d_for_path` is the model's `beamspread` of the ray's leg lengths,
leg velocities and interior incidence angles (any path with at least one leg) -/
theorem tie_beamspread (o : Src.Ops K) (ni : Nat) (vel ang leg : Nat → K) (hn : 2 ≤ ni) :
    Src.beamspread_2d_for_path o ni vel ang leg =
      beamspread (rtrig o) (legsOf leg (ni - 1)) (velsOf vel (ni - 1)) (angsOf ang (ni - 1)) := by
  obtain ⟨m, rfl⟩ : ∃ m, ni = m + 2 := ⟨ni - 2, by omega⟩
  rw [beamspread_eq, rtrig_one, rtrig_sqrt, show m + 2 - 1 = m + 1 from rfl, gammas_range,
    ← vdGen_eq o leg _ m (by simp), ← foldl_snoc_nil]
  -- the generated code builds `gamma_list` by `gamma_list ++ [γ_k]` in a loop over `k = 1 … m` (`foldl_snoc_nil`, read from
  -- right to left, turns the `map` of `gammas_range` into that loop); its second loop is `vdGen`
  rfl

end Arim.Tie.C06
