import ArimModel.Das
import ArimProofs.Generated.SrcC02
import ArimProofs.Lemmas.ListFold
import ArimProofs.Lemmas.SrcPrelude
import Mathlib.Order.Defs.LinearOrder
import Mathlib.Order.Basic
/-! # C02 — tie between the generated translation of the delay-and-sum kernels and the model

One image point (`point`) of the kernels of `arim.im.das`, as translated from the source on this run: the mean
kernels (amplitudes or not; nearest, linear, Lanczos) are the model's `dasAmp` / `dasNoAmp` at that point; the
median and Huber kernels hand their solver the model's `delayedSamples`. The ties of the solvers' own routines
(`_huber_iter`, `_f`, `_gradf_and_inv_hessf`) need ℝ and ℂ and stand in `C02.lean`. -/
namespace Arim.Tie.C02
open Arim.Das

variable {α β : Type}

/-- a loop `res += (term or fill)` over the timetraces followed by the division is `dasMean` -/
theorem dasMean_of_step (d : Data α β) (fill : β) (N : Nat) (term : Nat → Option β) (step : β → Nat → β)
    (h : ∀ acc k, step acc k = d.add acc ((term k).getD fill)) :
    d.divNat ((List.range N).foldl step d.zero) N = dasMean d fill N term :=
  congrArg (fun s => d.divNat ((List.range N).foldl s d.zero) N) (funext fun acc => funext (h acc))

/-- a loop `datapoints.append(term or fill)` over the timetraces fills the scratch array with `delayedSamples` -/
theorem delayedSamples_of_step (fill : β) (N : Nat) (term : Nat → Option β) (step : List β → Nat → List β)
    (h : ∀ acc k, step acc k = acc ++ [(term k).getD fill]) :
    (List.range N).foldl step [] = delayedSamples fill N term :=
  (congrArg (fun s => (List.range N).foldl s []) (funext fun acc => funext (h acc))).trans (foldl_snoc_nil _ _)

variable [Add α] [Sub α] [Mul α] [Div α] [Neg α] [LT α] [DecidableLT α]

/-- the routines of the translated code built from the model's `Ops` (the literal `1` is `ofInt 1`).  The nearest and
linear kernels call only `round`, `floor`, `ofInt` and `ofNat`; the Lanczos kernels also `sin` and `pi`, through their
own `das_sinc` (`srcOpsT` supplies them).  The other fields are placeholders never called by the kernels: `id` for
`sin` … `exp`, `ofInt 0` for `pi`, `floor` for `int()`; the field `sinc` is not called either. -/
def srcOps (ops : Ops α) : Src.Ops α :=
  { sin := id, cos := id, asin := id, sqrt := id, exp := id, sinc := ops.sinc, pi := ops.ofInt 0,
    ofNat := fun n => ops.ofInt (n : Int), ofInt := ops.ofInt, floor := ops.floor, round := ops.round, trunc := ops.floor }

/-- the arguments of a kernel call, as the model's `Problem` -/
def problem (wt : Nat → Nat → β) (tx rx : Nat → Nat) (ltx lrx : Nat → Nat → α) (dt t0 : α) (N n : Nat) : Problem α β :=
  { N := N, n := n, tx := tx, rx := rx, g := wt, ltTx := ltx, ltRx := lrx, t0 := t0, dt := dt }

/-- `_delay_and_sum_amplitudes_nearest` -/
theorem tie_amplitudes_nearest (ops : Ops α) (d : Data α β) (wt : Nat → Nat → β) (tx rx : Nat → Nat)
    (ltx lrx : Nat → Nat → α) (atx arx : Nat → Nat → β) (dt t0 : α) (fill : β) (N n pt : Nat) :
    Src.das_amplitudes_nearest (srcOps ops) d wt tx rx ltx lrx atx arx dt t0 fill N n pt
      = dasAmp ops d (problem wt tx rx ltx lrx dt t0 N n) atx arx .nearest fill pt :=
  dasMean_of_step d fill N _ _ fun acc _ => ite_map_getD (d.add acc) _ fill _

/-- `_delay_and_sum_amplitudes_linear` -/
theorem tie_amplitudes_linear (ops : Ops α) (d : Data α β) (wt : Nat → Nat → β) (tx rx : Nat → Nat)
    (ltx lrx : Nat → Nat → α) (atx arx : Nat → Nat → β) (dt t0 : α) (fill : β) (N n pt : Nat) :
    Src.das_amplitudes_linear (srcOps ops) d wt tx rx ltx lrx atx arx dt t0 fill N n pt
      = dasAmp ops d (problem wt tx rx ltx lrx dt t0 N n) atx arx .linear fill pt :=
  dasMean_of_step d fill N _ _ fun acc _ => ite_map_getD (d.add acc) _ fill _

/-- `_delay_and_sum_noamp`; the dispatcher passes `invdt = 1 / dt` -/
theorem tie_noamp_nearest (ops : Ops α) (d : Data α β) (wt : Nat → Nat → β) (tx rx : Nat → Nat)
    (ltx lrx : Nat → Nat → α) (dt t0 : α) (fill : β) (N n pt : Nat) :
    Src.das_noamp_nearest (srcOps ops) d wt tx rx ltx lrx (ops.ofInt 1 / dt) t0 fill N n pt
      = dasNoAmp ops d (problem wt tx rx ltx lrx dt t0 N n) .nearest fill pt :=
  dasMean_of_step d fill N _ _ fun acc _ => ite_getD (d.add acc) fill _

/-- `_delay_and_sum_noamp_linear` -/
theorem tie_noamp_linear (ops : Ops α) (d : Data α β) (wt : Nat → Nat → β) (tx rx : Nat → Nat)
    (ltx lrx : Nat → Nat → α) (dt t0 : α) (fill : β) (N n pt : Nat) :
    Src.das_noamp_linear (srcOps ops) d wt tx rx ltx lrx (ops.ofInt 1 / dt) t0 fill N n pt
      = dasNoAmp ops d (problem wt tx rx ltx lrx dt t0 N n) .linear fill pt :=
  dasMean_of_step d fill N _ _ fun acc _ => ite_getD (d.add acc) fill _

section lanczos
variable {α β : Type} [LinearOrder α] [Add α] [Sub α] [Mul α] [Div α] [Neg α]

/-- the routines with a sine and a value of π (the kernels' own `sinc` calls `math.sin`, `math.pi`) -/
def srcOpsT (ops : Ops α) (sin : α → α) (pi : α) : Src.Ops α := { srcOps ops with sin := sin, pi := pi }

theorem pyRangeI_two_a (lo : Int) (a : Nat) :
    Src.pyRangeI (lo - (a : Int) + 1) (lo + (a : Int) + 1) = (List.range (2 * a)).map (fun (k : Nat) => lo - (a : Int) + 1 + (k : Int)) := by
  rw [show lo + (a : Int) + 1 = lo - (a : Int) + 1 + ((2 * a : Nat) : Int) by omega, Src.pyRangeI_eq_map]

/-- `lanczos_interpolation` under the guard of the three Lanczos kernels (`≥` is `¬ <`). The source scales the sample
by the two `sinc` factors in turn where the model scales it by their product (`hd`); `hs`: the model's `sinc` is the
kernels' own translated `sinc`. -/
theorem tie_lanczos_interpolation (ops : Ops α) (sin : α → α) (pi : α) (d : Data α β)
    (hs : ∀ x, ops.sinc x = Src.das_sinc (srcOpsT ops sin pi) x)
    (hd : ∀ (s1 s2 : α) (v : β), d.smul s2 (d.smul s1 v) = d.smul (s1 * s2) v)
    (loc : α) (g : Nat → β) (a n : Nat) :
    interpLanczos ops d a n g loc =
      if loc < (srcOpsT ops sin pi).ofNat 0 ∨ loc ≥ (srcOpsT ops sin pi).ofNat n then none
      else some (Src.lanczos_interpolation (srcOpsT ops sin pi) d loc g a n) := by
  unfold interpLanczos Src.lanczos_interpolation
  simp only [ge_iff_le, ← not_lt]
  refine if_congr Iff.rfl rfl (congrArg some ?_)
  rw [pyRangeI_two_a, List.foldl_map]
  refine (foldl_congr_mem _ fun acc k _ => ?_).symm
  simp only [hs, hd, srcOpsT, srcOps]

/-- `_delay_and_sum_noamp_lanczos` -/
theorem tie_noamp_lanczos (ops : Ops α) (sin : α → α) (pi : α) (d : Data α β)
    (hs : ∀ x, ops.sinc x = Src.das_sinc (srcOpsT ops sin pi) x)
    (hd : ∀ (s1 s2 : α) (v : β), d.smul s2 (d.smul s1 v) = d.smul (s1 * s2) v)
    (wt : Nat → Nat → β) (tx rx : Nat → Nat)
    (ltx lrx : Nat → Nat → α) (dt t0 : α) (fill : β) (a N n pt : Nat) :
    Src.das_noamp_lanczos (srcOpsT ops sin pi) d wt tx rx ltx lrx (ops.ofInt 1 / dt) t0 fill a N n pt
      = dasNoAmp ops d (problem wt tx rx ltx lrx dt t0 N n) (.lanczos a) fill pt := by
  refine dasMean_of_step d fill N _ _ fun acc k => ?_
  rw [termNoAmp, tie_lanczos_interpolation ops sin pi d hs hd]
  exact ite_getD (d.add acc) fill _

/-- `_delay_and_sum_noamp_median_lanczos` hands its solver (`geomed`) exactly the model's delayed samples
`g_k(τ_tx + τ_rx)` (Lanczos interpolation, fill value outside the window), in timetrace order -/
theorem tie_noamp_median_lanczos (ops : Ops α) (sin : α → α) (pi : α) (d : Data α β)
    (hs : ∀ x, ops.sinc x = Src.das_sinc (srcOpsT ops sin pi) x)
    (hd : ∀ (s1 s2 : α) (v : β), d.smul s2 (d.smul s1 v) = d.smul (s1 * s2) v)
    (solver : List β → β) (wt : Nat → Nat → β) (tx rx : Nat → Nat)
    (ltx lrx : Nat → Nat → α) (dt t0 : α) (fill : β) (a N n pt : Nat) :
    Src.das_noamp_median_lanczos (srcOpsT ops sin pi) d wt tx rx ltx lrx (ops.ofInt 1 / dt) t0 fill a solver N n pt
      = solver (delayedSamples fill N (termNoAmp ops d (problem wt tx rx ltx lrx dt t0 N n) (.lanczos a) pt)) := by
  refine congrArg solver (delayedSamples_of_step fill N _ _ fun acc k => ?_)
  rw [termNoAmp, tie_lanczos_interpolation ops sin pi d hs hd]
  exact ite_getD (acc ++ [·]) fill _

/-- `_delay_and_sum_noamp_huber_lanczos`: the translated kernel is the median one word for word, with
`huber_m_estimate(·, τ)` as solver -/
theorem tie_noamp_huber_lanczos (ops : Ops α) (sin : α → α) (pi : α) (d : Data α β)
    (hs : ∀ x, ops.sinc x = Src.das_sinc (srcOpsT ops sin pi) x)
    (hd : ∀ (s1 s2 : α) (v : β), d.smul s2 (d.smul s1 v) = d.smul (s1 * s2) v)
    (solver : List β → β) (wt : Nat → Nat → β) (tx rx : Nat → Nat)
    (ltx lrx : Nat → Nat → α) (dt t0 tau : α) (fill : β) (a N n pt : Nat) :
    Src.das_noamp_huber_lanczos (srcOpsT ops sin pi) d wt tx rx ltx lrx (ops.ofInt 1 / dt) t0 fill a tau solver N n pt
      = solver (delayedSamples fill N (termNoAmp ops d (problem wt tx rx ltx lrx dt t0 N n) (.lanczos a) pt)) :=
  tie_noamp_median_lanczos ops sin pi d hs hd solver wt tx rx ltx lrx dt t0 fill a N n pt

end lanczos

/-- `_delay_and_sum_noamp_median_nearest`: the same with the nearest sample -/
theorem tie_noamp_median_nearest (ops : Ops α) (d : Data α β) (solver : List β → β) (wt : Nat → Nat → β) (tx rx : Nat → Nat)
    (ltx lrx : Nat → Nat → α) (dt t0 : α) (fill : β) (N n pt : Nat) :
    Src.das_noamp_median_nearest (srcOps ops) wt tx rx ltx lrx (ops.ofInt 1 / dt) t0 fill solver N n pt
      = solver (delayedSamples fill N (termNoAmp ops d (problem wt tx rx ltx lrx dt t0 N n) .nearest pt)) :=
  congrArg solver (delayedSamples_of_step fill N _ _ fun acc _ => ite_getD (acc ++ [·]) fill _)

end Arim.Tie.C02
