import ArimModel.Chunk
import ArimProofs.Generated.SrcC13
import ArimProofs.Lemmas.ListFold
/-! # C13 (C08) — tie between the generated translation of `arim.helpers.chunk_array` and the model's `chunks`

`chunk_array` is a generator of NumPy index tuples; the translation lists, for every yielded tuple, the position of its
`slice(a, b)` and the bounds `a`, `b` as written (NumPy clips them to the axis length when the tuple is used).

C08's check audits these theorems as well (`USES` in `harness/srcspecs.py`): the `sensitivity_*_tfm` functions of C08
loop over the chunks of the same `chunk_array`. -/
namespace Arim.Tie.C13
open Arim

variable {K : Type} [Add K] [Sub K] [Mul K] [Div K] [Neg K]

/-- the code has one branch each for the split axis first, last and in between; all three yield this list -/
theorem tie_chunk_array (o : Src.Ops K) (shape : Nat → Nat) (ndim b axis : Nat) :
    Src.chunk_array o shape ndim b axis =
      (List.range (numChunks (shape axis) b)).map (fun i => (axis, i * b, (i + 1) * b)) := by
  unfold Src.chunk_array
  simp only [foldl_snoc_nil]
  split
  · next h => rw [h]; rfl
  · split
    · next h => rw [h]; rfl
    · rfl

/-- NumPy's clipping of a slice to an axis of length `L` -/
def clip (L : Nat) (t : Nat × Nat × Nat) : Nat × Nat := (min t.2.1 L, min t.2.2 L)

theorem tie_chunk_array_clipped (o : Src.Ops K) (shape : Nat → Nat) (ndim b axis : Nat) :
    (Src.chunk_array o shape ndim b axis).map (clip (shape axis)) = chunks (shape axis) b := by
  rw [tie_chunk_array, List.map_map]; rfl

theorem tie_chunk_array_position (o : Src.Ops K) (shape : Nat → Nat) (ndim b axis : Nat) :
    ∀ t ∈ Src.chunk_array o shape ndim b axis, t.1 = axis := by
  rw [tie_chunk_array]
  exact List.forall_mem_map.2 fun _ _ => rfl

end Arim.Tie.C13
