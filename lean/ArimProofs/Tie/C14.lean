import ArimProofs.Lemmas.RayCache
import ArimProofs.Generated.SrcC14
/-! # C14 — tie between the structural translation of `arim.ray` (decorator `_cache_ray_geometry`, the 17 cached query
methods of `RayGeometry`, the two clearing methods, `precompute`) and the hand-written state machine `Arim.RayCache`.

The generated definitions (`ArimProofs/Generated/SrcC14.lean`, rewritten from /repo/src/arim/ray.py on every run) say, for
every method, which sub-queries its body issues in which order, when it answers `None`, when it raises; the decorator says
what is stored under which key.  The theorems below prove them equal to the model for the current code
(`rawZeroTest = false`: the `inc_*` bodies test the *normalised* index, finding F3), so every theorem of `ArimProofs/C14.lean`
is a theorem about what the source says. -/
namespace Arim.Tie.C14
open Arim.RayCache

theorem tie_wrap : @Arim.SrcC14.wrap = @Arim.RayCache.wrap := rfl

theorem tie_clearIntermediate : @Arim.SrcC14.clearIntermediate = @Arim.RayCache.clearIntermediate := rfl

/-- the model has `clear_all_results` only as a case of `step`, which takes a geometry; neither that case nor the
translated `clearAll` reads it, so any value serves -/
theorem tie_clearAll (s : St) : Arim.SrcC14.clearAll s = (step ⟨0, fun _ => none, fun _ => none, false⟩ s .clearAll).2 := rfl

/-- `precompute` has no `try/finally`: the translator reads off that the clean-up is skipped when the block raises, the
branch `step` models (`C14.srcStep_eq` uses this equation) -/
theorem tie_precompute : Arim.SrcC14.precomputeCleansUpOnError = false := rfl

theorem tie_leg_points (g : Geo) : Arim.SrcC14.q_leg_points g = qLeg g := rfl
theorem tie_orientations_of_legs_points (g : Geo) : Arim.SrcC14.q_orientations_of_legs_points g = qOrient g := rfl

/-- the two branches of the normal-side flag differ by a computation on the answer only (`pi - theta` on the copy);
the model has merged them -/
theorem side_collapse (c : Bool) (o : Option Bool) (n a x : Res × St) :
    (if c then n else match o with
      | none => a
      | some true => x
      | some false => andThen x fun out s => (.ok out, s)) =
    (if c then n else match o with
      | none => a
      | some _ => x) := by
  rw [andThen_ret]; rcases o with _ | _ | _ <;> rfl

section current
variable (g : Geo) (h : g.rawZeroTest = false)
include h

theorem tie_inc_leg_size : Arim.SrcC14.q_inc_leg_size g = qIncLegSize g := by
  funext s r fin
  simp only [Arim.SrcC14.q_inc_leg_size, qIncLegSize, tie_wrap, tie_leg_points, isFirst_current h]

theorem tie_inc_leg_cartesian : Arim.SrcC14.q_inc_leg_cartesian g = qIncCart g := by
  funext s r fin
  simp only [Arim.SrcC14.q_inc_leg_cartesian, qIncCart, tie_wrap, tie_leg_points, tie_orientations_of_legs_points, isFirst_current h]

theorem tie_inc_leg_radius : Arim.SrcC14.q_inc_leg_radius g = qIncRadius g := by
  funext s r fin
  simp only [Arim.SrcC14.q_inc_leg_radius, qIncRadius, tie_wrap, tie_inc_leg_cartesian g h]

theorem tie_inc_leg_polar : Arim.SrcC14.q_inc_leg_polar g = qIncPolar g := by
  funext s r fin
  simp only [Arim.SrcC14.q_inc_leg_polar, qIncPolar, tie_wrap, tie_inc_leg_cartesian g h, tie_inc_leg_radius g h]

theorem tie_inc_leg_azimuth : Arim.SrcC14.q_inc_leg_azimuth g = qIncAzimuth g := by
  funext s r fin
  simp only [Arim.SrcC14.q_inc_leg_azimuth, qIncAzimuth, tie_wrap, tie_inc_leg_cartesian g h]

theorem tie_inc_angle : Arim.SrcC14.q_inc_angle g = qIncAngle g := by
  funext s r fin
  simp only [Arim.SrcC14.q_inc_angle, qIncAngle, tie_wrap, tie_inc_leg_polar g h]

theorem tie_signed_inc_angle : Arim.SrcC14.q_signed_inc_angle g = qSignedInc g := by
  funext s r fin
  simp only [Arim.SrcC14.q_signed_inc_angle, qSignedInc, tie_wrap, tie_inc_leg_azimuth g h, tie_inc_leg_polar g h]

theorem tie_conventional_inc_angle : Arim.SrcC14.q_conventional_inc_angle g = qConvInc g := by
  funext s r fin
  simp only [Arim.SrcC14.q_conventional_inc_angle, qConvInc, tie_wrap, tie_inc_leg_polar g h, isFirst_current h]
  exact congrArg (wrap g .convInc · s r fin) (funext fun s => funext fun r => side_collapse ..)

end current

/-! the outgoing side does not depend on the first-interface test -/

theorem tie_out_leg_cartesian (g : Geo) : Arim.SrcC14.q_out_leg_cartesian g = qOutCart g := by
  funext s r fin
  simp only [Arim.SrcC14.q_out_leg_cartesian, qOutCart, tie_wrap, tie_leg_points, tie_orientations_of_legs_points, isLast]
  rfl

theorem tie_out_leg_radius (g : Geo) : Arim.SrcC14.q_out_leg_radius g = qOutRadius g := by
  funext s r fin
  simp only [Arim.SrcC14.q_out_leg_radius, qOutRadius, tie_wrap, tie_out_leg_cartesian]

theorem tie_out_leg_polar (g : Geo) : Arim.SrcC14.q_out_leg_polar g = qOutPolar g := by
  funext s r fin
  simp only [Arim.SrcC14.q_out_leg_polar, qOutPolar, tie_wrap, tie_out_leg_cartesian, tie_out_leg_radius]

theorem tie_out_leg_azimuth (g : Geo) : Arim.SrcC14.q_out_leg_azimuth g = qOutAzimuth g := by
  funext s r fin
  simp only [Arim.SrcC14.q_out_leg_azimuth, qOutAzimuth, tie_wrap, tie_out_leg_cartesian]

theorem tie_out_angle (g : Geo) : Arim.SrcC14.q_out_angle g = qOutAngle g := by
  funext s r fin
  simp only [Arim.SrcC14.q_out_angle, qOutAngle, tie_wrap, tie_out_leg_polar]

theorem tie_signed_out_angle (g : Geo) : Arim.SrcC14.q_signed_out_angle g = qSignedOut g := by
  funext s r fin
  simp only [Arim.SrcC14.q_signed_out_angle, qSignedOut, tie_wrap, tie_out_leg_azimuth, tie_out_leg_polar]

theorem tie_conventional_out_angle (g : Geo) : Arim.SrcC14.q_conventional_out_angle g = qConvOut g := by
  funext s r fin
  simp only [Arim.SrcC14.q_conventional_out_angle, qConvOut, tie_wrap, tie_out_leg_polar]
  exact congrArg (wrap g .convOut · s r fin) (funext fun s => funext fun r => side_collapse ..)

/-- every cached query of the source, as translated, is the model's query -/
theorem tie_query (g : Geo) (h : g.rawZeroTest = false) : Arim.SrcC14.query g = query g := by
  funext s m r fin
  unfold Arim.SrcC14.query
  rw [tie_leg_points, tie_orientations_of_legs_points, tie_inc_leg_size g h, tie_inc_leg_cartesian g h,
    tie_inc_leg_radius g h, tie_inc_leg_polar g h, tie_inc_leg_azimuth g h, tie_inc_angle g h, tie_signed_inc_angle g h,
    tie_conventional_inc_angle g h, tie_out_leg_cartesian, tie_out_leg_radius, tie_out_leg_polar, tie_out_leg_azimuth,
    tie_out_angle, tie_signed_out_angle, tie_conventional_out_angle]
  cases m <;> rfl

end Arim.Tie.C14
