import ArimModel.Tfm
import ArimProofs.Tie.C02
import ArimProofs.Tie.C01
import ArimProofs.Lemmas.Tfm
import ArimProofs.C15
import Mathlib.Algebra.BigOperators.Ring.Finset
import Mathlib.Data.Rat.Floor
/-! # C12 — TFM pipelines: contact = straight rays, HMC = FMC, reciprocal views coincide -/
namespace Arim.C12
-- `Arim.Tfm` has its own copies of these (`Das`'s by `rfl`, Lemmas/Tfm.lean); the statements of this file mean `Tfm`'s
open Arim.Das hiding stdData stdOps roundHalfEven stdOps_ofInt stdOps_round stdOps_floor
open Arim.Tfm Arim.Frame

variable {α β : Type} [Add α] [Sub α] [Mul α] [Div α] [LT α] [DecidableLT α]

/-- Contact TFM is delay-and-sum with straight-ray lookup times (the same table for
transmit and receive) and the default timetrace weights. -/
theorem contact_is_das (ops : Ops α) (d : Data α β) (pairs : List Pair) (G : Nat → Nat → Nat → β)
    (n : Nat) (lookup : Nat → Nat → α) (t0 dt : α) (it : Interp) (fill : β) (pt : Nat) :
    contactTfm ops d pairs G n lookup t0 dt it fill pt =
      dasMean d fill pairs.length (fun k =>
        termNoAmp ops d
          { (frameProblem pairs G n lookup lookup t0 dt) with
            g := weigh d (some (defaultWeightsS ops pairs)) (frameProblem pairs G n lookup lookup t0 dt).g }
          it pt k) := rfl

/-- A view is imaged with the transposed ray-tracing times of its two paths, unweighted. -/
theorem view_is_das (ops : Ops α) (d : Data α β) (pairs : List Pair) (G : Nat → Nat → Nat → β)
    (n : Nat) (timesTx timesRx : Nat → Nat → α) (t0 dt : α) (it : Interp) (fill : β) (pt : Nat) :
    tfmForView ops d pairs G n timesTx timesRx t0 dt it fill pt =
      dasMean d fill pairs.length (fun k =>
        termNoAmp ops d (frameProblem pairs G n (fun p e => timesTx e p) (fun p e => timesRx e p) t0 dt) it pt k) := rfl

/-! ## The pipelines on the kernels as translated from the source on this run

`contact_tfm` and `tfm_for_view` hand the weighted timetraces and the lookup tables to the delay-and-sum kernels; with
the kernels translated from `/repo/src/arim/im/das.py` on this run (`Tie/C02.lean`) and the straight-ray table built from
the translated `_distance_pairwise` (`Tie/C01.lean`), the image value at a point is the model's `contactTfm` /
`tfmForView`, the constants the identities below are about. -/
section OnSource
open Arim.Tie.C02
variable [Neg α]

/-- contact TFM, nearest interpolation: translated kernel on the default-weighted timetraces and one lookup table -/
theorem src_contact_tfm_nearest (ops : Ops α) (d : Data α β) (pairs : List Pair) (G : Nat → Nat → Nat → β)
    (n : Nat) (lookup : Nat → Nat → α) (t0 dt : α) (fill : β) (pt : Nat) :
    Src.das_noamp_nearest (srcOps ops) d
        (weigh d (some (defaultWeightsS ops pairs)) (fun k => G (pairs.getD k (0, 0)).1 (pairs.getD k (0, 0)).2))
        (fun k => (pairs.getD k (0, 0)).1) (fun k => (pairs.getD k (0, 0)).2) lookup lookup
        (ops.ofInt 1 / dt) t0 fill pairs.length n pt
      = contactTfm ops d pairs G n lookup t0 dt .nearest fill pt := by
  rw [tie_noamp_nearest]; rfl

theorem src_contact_tfm_linear (ops : Ops α) (d : Data α β) (pairs : List Pair) (G : Nat → Nat → Nat → β)
    (n : Nat) (lookup : Nat → Nat → α) (t0 dt : α) (fill : β) (pt : Nat) :
    Src.das_noamp_linear (srcOps ops) d
        (weigh d (some (defaultWeightsS ops pairs)) (fun k => G (pairs.getD k (0, 0)).1 (pairs.getD k (0, 0)).2))
        (fun k => (pairs.getD k (0, 0)).1) (fun k => (pairs.getD k (0, 0)).2) lookup lookup
        (ops.ofInt 1 / dt) t0 fill pairs.length n pt
      = contactTfm ops d pairs G n lookup t0 dt .linear fill pt := by
  rw [tie_noamp_linear]; rfl

/-- a view, nearest interpolation: translated kernel on the unweighted timetraces and the transposed ray times -/
theorem src_tfm_for_view_nearest (ops : Ops α) (d : Data α β) (pairs : List Pair) (G : Nat → Nat → Nat → β)
    (n : Nat) (timesTx timesRx : Nat → Nat → α) (t0 dt : α) (fill : β) (pt : Nat) :
    Src.das_noamp_nearest (srcOps ops) d (fun k => G (pairs.getD k (0, 0)).1 (pairs.getD k (0, 0)).2)
        (fun k => (pairs.getD k (0, 0)).1) (fun k => (pairs.getD k (0, 0)).2)
        (fun p e => timesTx e p) (fun p e => timesRx e p) (ops.ofInt 1 / dt) t0 fill pairs.length n pt
      = tfmForView ops d pairs G n timesTx timesRx t0 dt .nearest fill pt := by
  rw [tie_noamp_nearest]; rfl

/-- the straight-ray lookup table of `contact_tfm`: translated distance kernel divided by the velocity -/
theorem src_contact_lookup {γ : Type} [Add γ] [Sub γ] [Mul γ] [Div γ] [Neg γ] (o : Src.Ops γ)
    (grid probe : Array (P3 γ)) (v : γ) (dflt : P3 γ) (p e : Nat) :
    Src.distance_pairwise_cell o (fun i => (grid.getD i dflt).x) (fun i => (grid.getD i dflt).y) (fun i => (grid.getD i dflt).z)
        (fun j => (probe.getD j dflt).x) (fun j => (probe.getD j dflt).y) (fun j => (probe.getD j dflt).z) p e / v
      = contactLookup o.sqrt grid probe v dflt p e := by
  rw [Arim.Tie.C01.tie_distance_pairwise]; rfl

end OnSource

/-! ## Images over an ordered field

From here on the time scalar and the samples live in the same linearly ordered field `K`, the
sample operations are the field operations (`stdData`). The numerical primitives `ops` stay
arbitrary unless stated (`stdOps sinc` = floor / round-half-even of a `FloorRing`), and the
interpolation `it` is arbitrary (nearest, linear and Lanczos). -/
section Field
variable {K : Type} [Field K] [LinearOrder K]

omit [LinearOrder K] in
/-- The mean aggregation is a finite sum: the left fold of the kernel over the timetraces
is the `Finset` sum of the delayed samples (fill value where the lookup is out of window). -/
theorem dasMean_sum (fill : K) (N : Nat) (term : Nat → Option K) :
    dasMean stdData fill N term = (∑ k ∈ Finset.range N, (term k).getD fill) / (N : K) :=
  dasMean_eq_sum fill N term

/-- Reciprocity of the contact terms: same lookup table for transmit and receive and
reciprocal data: two timetraces of (possibly different) frames whose pairs are mirror of each
other have the same delayed sample, at every grid point and for every interpolation. -/
theorem term_swap {β : Type} (ops : Ops K) (d : Data K β) (L L' : List Pair)
    (G : Nat → Nat → Nat → β) (hG : ∀ i j s, G i j s = G j i s) (ns : Nat)
    (lk : Nat → Nat → K) (t0 dt : K) (it : Interp) (pt k k' : Nat)
    (hkk : L.getD k (0, 0) = swap (L'.getD k' (0, 0))) :
    termNoAmp ops d (frameProblem L G ns lk lk t0 dt) it pt k =
      termNoAmp ops d (frameProblem L' G ns lk lk t0 dt) it pt k' := by
  rw [term_frameProblem, term_frameProblem, hkk, pairTerm_swap ops d G hG]

/-- the same on pairs: the term of `(i, j)` is the term of `(j, i)` -/
theorem pairTerm_comm {β : Type} (ops : Ops K) (d : Data K β)
    (G : Nat → Nat → Nat → β) (hG : ∀ i j s, G i j s = G j i s) (ns : Nat)
    (lk : Nat → Nat → K) (t0 dt : K) (it : Interp) (pt i j : Nat) :
    pairTerm ops d G ns lk lk t0 dt it pt (i, j) = pairTerm ops d G ns lk lk t0 dt it pt (j, i) :=
  pairTerm_swap ops d G hG ns lk lk t0 dt it pt (j, i)

/-- Reciprocal views coincide: on a duplicate-free frame closed under `tx ↔ rx` with
reciprocal data, exchanging the transmit and receive ray-tracing tables (the view `AB` against
the view `BA`) gives the same image, for every interpolation and every fill value. -/
theorem reciprocal_views_coincide (ops : Ops K) (L : List Pair) (hnd : L.Nodup)
    (hcl : ∀ p ∈ L, swap p ∈ L) (G : Nat → Nat → Nat → K) (hG : ∀ i j s, G i j s = G j i s)
    (ns : Nat) (A B : Nat → Nat → K) (t0 dt : K) (it : Interp) (fill : K) (pt : Nat) :
    tfmForView ops stdData L G ns A B t0 dt it fill pt =
      tfmForView ops stdData L G ns B A t0 dt it fill pt := by
  unfold tfmForView
  -- the left sum re-indexed over `L.map swap`, a permutation of `L` by `hnd` and `hcl`; then `pairTerm_swap` termwise
  rw [← das_frame_perm ops (map_swap_perm L hnd hcl), das_frame_eq_sum, das_frame_eq_sum, List.length_map,
    List.map_map]
  congr 3
  funext p
  exact congrArg (·.getD fill) (pairTerm_swap ops stdData G hG ns _ _ t0 dt it pt p)

theorem contact_congr (ops : Ops K) (L : List Pair) (G G' : Nat → Nat → Nat → K)
    (h : ∀ p ∈ L, G p.1 p.2 = G' p.1 p.2) (ns : Nat)
    (lk : Nat → Nat → K) (t0 dt : K) (it : Interp) (fill : K) (pt : Nat) :
    contactTfm ops stdData L G ns lk t0 dt it fill pt =
      contactTfm ops stdData L G' ns lk t0 dt it fill pt := by
  rw [contact_eq_sum_fill, contact_eq_sum_fill,
    List.map_congr_left fun p hp => by rw [pairTerm_congr ops stdData ns lk lk t0 dt it pt (h p hp)]]

/-- on a frame closed under `tx ↔ rx` (e.g. FMC) all default weights are `1`: the contact image
is the unweighted delay-and-sum, for every fill value -/
theorem contact_complete_unweighted (ops : Ops K) (h1 : ops.ofInt 1 = 1) (L : List Pair)
    (hcl : ∀ p ∈ L, swap p ∈ L) (G : Nat → Nat → Nat → K) (ns : Nat)
    (lk : Nat → Nat → K) (t0 dt : K) (it : Interp) (fill : K) (pt : Nat) :
    contactTfm ops stdData L G ns lk t0 dt it fill pt =
      dasNoAmp ops stdData (frameProblem L G ns lk lk t0 dt) it fill pt := by
  rw [contact_eq_sum_fill, das_frame_eq_sum]
  congr 2
  refine List.map_congr_left (fun p hp => ?_)
  rw [weightOf_of_closed L hcl p hp]
  cases pairTerm ops stdData G ns lk lk t0 dt it pt p <;> simp [h1]

end Field

section Ordered
variable {K : Type} [Field K] [LinearOrder K] [IsStrictOrderedRing K]

omit [LinearOrder K] [IsStrictOrderedRing K] in
/-- Weighted sum = sum over the frame expanded by reciprocity. For any list `L` of pairs
(duplicates allowed) and any swap-invariant `T`, the sum over the timetraces of
`default weight × T(pair)` is the sum of `T` over `L` and the mirrors missing from `L`. -/
theorem weighted_sum_reciprocity (L : List Pair) (T : Pair → K) (hT : ∀ p, T (swap p) = T p) :
    ∑ k ∈ Finset.range L.length, ((defaultWeights L).getD k 1 : K) * T (L.getD k (0, 0)) =
      ((expandPairs L).map T).sum := by
  rw [← weighted_sum_expand L T hT, ← sum_range_getD L _ (0, 0)]
  refine Finset.sum_congr rfl (fun k hk => ?_)
  rw [defaultWeights_getD L k (Finset.mem_range.1 hk)]

omit [IsStrictOrderedRing K] in
theorem contact_eq_expanded_sum (ops : Ops K) (h1 : ops.ofInt 1 = 1) (h2 : ops.ofInt 2 = 2)
    (L : List Pair) (G : Nat → Nat → Nat → K) (hG : ∀ i j s, G i j s = G j i s) (ns : Nat)
    (lk : Nat → Nat → K) (t0 dt : K) (it : Interp) (pt : Nat) :
    contactTfm ops stdData L G ns lk t0 dt it 0 pt =
      ((expandPairs L).map (fun p => (pairTerm ops stdData G ns lk lk t0 dt it pt p).getD 0)).sum /
        (L.length : K) := by
  rw [contact_eq_sum, ← weighted_sum_expand L _
    (fun p => by rw [pairTerm_swap ops stdData G hG])]
  simp only [ofInt_weightOf ops h1 h2]

/-- Expand, then image. Imaging (unit weights) the pair list completed by reciprocity gives
`N / N'` times the default-weighted image of the recorded frame (`N` recorded timetraces, `N'`
after expansion). No hypothesis on `L`. -/
theorem expand_then_image (ops : Ops K) (h1 : ops.ofInt 1 = 1) (h2 : ops.ofInt 2 = 2)
    (L : List Pair) (G : Nat → Nat → Nat → K) (hG : ∀ i j s, G i j s = G j i s) (ns : Nat)
    (lk : Nat → Nat → K) (t0 dt : K) (it : Interp) (pt : Nat) :
    ((expandPairs L).length : K) *
        dasNoAmp ops stdData (frameProblem (expandPairs L) G ns lk lk t0 dt) it 0 pt =
      (L.length : K) * contactTfm ops stdData L G ns lk t0 dt it 0 pt := by
  rw [das_frame_eq_sum, length_mul_mean, contact_eq_expanded_sum ops h1 h2 L G hG,
    length_mul_div]
  -- the side goal of `length_mul_div`: for `L = []` the expanded sum is empty
  rintro rfl; rfl

/-- the same for any duplicate-free enumeration `L'` of the recorded pairs and their mirrors
(here `L` must be duplicate-free as well) -/
theorem expand_then_image_of_mem (ops : Ops K) (h1 : ops.ofInt 1 = 1) (h2 : ops.ofInt 2 = 2)
    (L L' : List Pair) (hL : L.Nodup) (hL' : L'.Nodup)
    (hmem : ∀ p, p ∈ L' ↔ (p ∈ L ∨ swap p ∈ L))
    (G : Nat → Nat → Nat → K) (hG : ∀ i j s, G i j s = G j i s) (ns : Nat)
    (lk : Nat → Nat → K) (t0 dt : K) (it : Interp) (pt : Nat) :
    (L'.length : K) * dasNoAmp ops stdData (frameProblem L' G ns lk lk t0 dt) it 0 pt =
      (L.length : K) * contactTfm ops stdData L G ns lk t0 dt it 0 pt := by
  have h := perm_expandPairs L L' hL hL' hmem
  rw [← expand_then_image ops h1 h2 L G hG, das_frame_perm ops h, h.length_eq]

/-- HMC = FMC. With reciprocal data and the contact lookup table, the half-matrix image with
the default weights (1 on the diagonal, 2 off it) is the full-matrix image, up to the ratio of
the numbers of timetraces (`n (n+1) / 2` against `n²`). Every `n`, every interpolation. -/
theorem hmc_eq_fmc (ops : Ops K) (h1 : ops.ofInt 1 = 1) (h2 : ops.ofInt 2 = 2) (n : Nat)
    (G : Nat → Nat → Nat → K) (hG : ∀ i j s, G i j s = G j i s) (ns : Nat)
    (lookup : Nat → Nat → K) (t0 dt : K) (it : Interp) (pt : Nat) :
    ((hmc n).length : K) * contactTfm ops stdData (hmc n) G ns lookup t0 dt it 0 pt =
      ((fmc n).length : K) * contactTfm ops stdData (fmc n) G ns lookup t0 dt it 0 pt := by
  -- both sides are `|fmc n|` times the unweighted image over `fmc n`: `expand_then_image_of_mem` read from right to left,
  -- with `L' = fmc n` listing the pairs of `hmc n` and their mirrors (first rewrite), then those of `fmc n` itself (second)
  rw [← expand_then_image_of_mem ops h1 h2 (hmc n) (fmc n) (C15.hmc_nodup n) (C15.fmc_nodup n)
      (fun p => by simp only [C15.mem_fmc', C15.mem_hmc', swap]; omega) G hG,
    ← expand_then_image_of_mem ops h1 h2 (fmc n) (fmc n) (C15.fmc_nodup n) (C15.fmc_nodup n)
      (fun p => by simp only [C15.mem_fmc', swap]; omega) G hG]

omit [Field K] [LinearOrder K] [IsStrictOrderedRing K] in
/-- FMC: every default weight is `1` -/
theorem weights_fmc (n k : Nat) (hk : k < (fmc n).length) : (defaultWeights (fmc n)).getD k 1 = 1 := by
  rw [defaultWeights_getD _ k hk]
  exact weightOf_of_closed (fmc n) (fun p hp => by
    rw [C15.mem_fmc'] at hp ⊢; exact ⟨hp.2, hp.1⟩) _ (getD_mem _ hk _)

omit [Field K] [LinearOrder K] [IsStrictOrderedRing K] in
/-- HMC: the default weight is `1` on the diagonal (`tx = rx`), `2` off it -/
theorem weights_hmc (n k : Nat) (hk : k < (hmc n).length) :
    (defaultWeights (hmc n)).getD k 1 =
      if ((hmc n).getD k (0, 0)).1 = ((hmc n).getD k (0, 0)).2 then 1 else 2 := by
  rw [defaultWeights_getD _ k hk]
  have hm : (hmc n).getD k (0, 0) ∈ hmc n := getD_mem _ hk _
  generalize (hmc n).getD k (0, 0) = p at hm
  rw [C15.mem_hmc'] at hm
  have hsw : swap p ∈ hmc n ↔ p.1 = p.2 := by
    rw [C15.mem_hmc']; simp only [swap]; omega
  simp only [weightOf, hsw]

/-- looking a pair up in the expanded frame gives the timetrace recorded for it if there is one, else the one
recorded for its mirror -/
theorem lookup_expand {P : Type} (f : List (TT P)) (hnd : (pairsOf f).Nodup) (p : Pair) :
    lookup (expand f) p = (lookup f p).or (lookup f (swap p)) := by
  by_cases hp : p ∈ pairsOf (expand f)
  · obtain ⟨t, ht, rfl⟩ := List.mem_map.1 hp
    rw [lookup_of_mem _ (C15.expand_pairs_nodup f hnd) t ht]
    rcases C15.expand_payload f hnd t ht with h | ⟨h, h'⟩
    · -- `t` is the timetrace recorded for its own pair
      rw [h]; rfl
    · -- the pair of `t` is not recorded: `t` is the mirror of a recorded timetrace
      rw [h, swap, h']; rfl
  · -- neither the pair nor its mirror is recorded
    rw [(lookup_eq_none _ p).2 hp]
    rw [C15.expand_pairs_mem, not_or] at hp
    rw [(lookup_eq_none f p).2 hp.1, (lookup_eq_none f _).2 hp.2]; rfl

/-- the timetrace recorded for the pair `(i, j)` in a frame with payloads (zero if none) -/
def frameData (f : List (TT (Nat → K))) : Nat → Nat → Nat → K :=
  fun i j => (lookup f (i, j)).getD (fun _ => 0)

/-- `Frame.expand`, then image. For a frame `f` with timetraces as payloads, without
duplicate pair, and reciprocal wherever both a pair and its mirror are recorded: the unweighted
image of the frame expanded by `expand_frame_assuming_reciprocity` (model `Frame.expand`), times
its number of timetraces, is the default-weighted contact image of `f` times its number of
timetraces. -/
theorem expand_frame_then_image (ops : Ops K) (h1 : ops.ofInt 1 = 1) (h2 : ops.ofInt 2 = 2)
    (f : List (TT (Nat → K))) (hnd : (pairsOf f).Nodup)
    (hrec : ∀ p, p ∈ pairsOf f → swap p ∈ pairsOf f → lookup f p = lookup f (swap p))
    (ns : Nat) (lk : Nat → Nat → K) (t0 dt : K) (it : Interp) (pt : Nat) :
    ((expand f).length : K) *
        dasNoAmp ops stdData
          (frameProblem (pairsOf (expand f)) (frameData (expand f)) ns lk lk t0 dt) it 0 pt =
      (f.length : K) * contactTfm ops stdData (pairsOf f) (frameData f) ns lk t0 dt it 0 pt := by
  -- the data of the expanded frame are reciprocal and agree with those of `f` on the recorded pairs
  have hE : ∀ i j, frameData (expand f) i j = ((lookup f (i, j)).or (lookup f (j, i))).getD fun _ => 0 :=
    fun i j => by rw [frameData, lookup_expand f hnd]; rfl
  have hsym : ∀ i j s, frameData (expand f) i j s = frameData (expand f) j i s := by
    intro i j s
    rw [hE, hE]
    cases hij : lookup f (i, j) <;> cases hji : lookup f (j, i) <;> try rfl
    have e := hrec (i, j) ((lookup_isSome f _).1 (hij ▸ rfl)) ((lookup_isSome f (j, i)).1 (hji ▸ rfl))
    cases (hij.symm.trans e).trans hji
    rfl
  have hf : ∀ p ∈ pairsOf f, frameData f p.1 p.2 = frameData (expand f) p.1 p.2 := by
    intro p hp
    obtain ⟨d, hd⟩ := Option.isSome_iff_exists.1 ((lookup_isSome f p).2 hp)
    rw [hE, frameData, hd]; rfl
  rw [contact_congr ops _ _ _ hf]
  have := expand_then_image_of_mem ops h1 h2 (pairsOf f) (pairsOf (expand f)) hnd
    (C15.expand_pairs_nodup f hnd) (C15.expand_pairs_mem f) _ hsym ns lk t0 dt it pt
  simpa [pairsOf] using this

/-- `hmc_eq_fmc` for the standard primitives (floor, round-half-even, integer cast) -/
theorem hmc_eq_fmc_std [FloorRing K] (sinc : K → K) (n : Nat)
    (G : Nat → Nat → Nat → K) (hG : ∀ i j s, G i j s = G j i s) (ns : Nat)
    (lookup : Nat → Nat → K) (t0 dt : K) (it : Interp) (pt : Nat) :
    ((hmc n).length : K) * contactTfm (stdOps sinc) stdData (hmc n) G ns lookup t0 dt it 0 pt =
      ((fmc n).length : K) * contactTfm (stdOps sinc) stdData (fmc n) G ns lookup t0 dt it 0 pt :=
  hmc_eq_fmc (stdOps sinc) (by simp) (by simp) n G hG ns lookup t0 dt it pt

omit [IsStrictOrderedRing K] in
theorem spike_image_eq_count (ops : Ops K) (p : Problem K K) (pstar : Nat)
    (hwin : ∀ k < p.N, 0 ≤ ops.round (locB ops p pstar k) ∧
      ops.round (locB ops p pstar k) < (p.n : Int))
    (hg : ∀ k < p.N, ∀ s, p.g k s = if s = (ops.round (locB ops p pstar k)).toNat then 1 else 0)
    (pt : Nat) :
    dasNoAmp ops stdData p .nearest 0 pt =
      (((Finset.range p.N).filter (fun k =>
        ops.round (locB ops p pt k) = ops.round (locB ops p pstar k))).card : K) / (p.N : K) := by
  unfold dasNoAmp
  rw [dasMean_eq_sum, Finset.sum_congr rfl (fun k hk =>
    spike_term ops p pstar pt k (hwin k (Finset.mem_range.1 hk)) (hg k (Finset.mem_range.1 hk))),
    Finset.sum_boole]

/-- Spike focus, with the hypotheses on an arbitrary problem `p`: nearest interpolation, unit weights, fill `0`,
at least one timetrace, arbitrary lookup tables: if `p.g k` is a unit spike at the (in-window) nearest-sample
index of the arrival time of `pstar` for every timetrace `k < p.N`, the image is `1` at `pstar` and lies in
`[0, 1]` everywhere. -/
theorem spike_focus_of (ops : Ops K) (p : Problem K K) (pstar : Nat) (hN : 1 ≤ p.N)
    (hwin : ∀ k < p.N, 0 ≤ ops.round (locB ops p pstar k) ∧
      ops.round (locB ops p pstar k) < (p.n : Int))
    (hg : ∀ k < p.N, ∀ s, p.g k s = if s = (ops.round (locB ops p pstar k)).toNat then 1 else 0) :
    dasNoAmp ops stdData p .nearest 0 pstar = 1 ∧
      ∀ pt, 0 ≤ dasNoAmp ops stdData p .nearest 0 pt ∧ dasNoAmp ops stdData p .nearest 0 pt ≤ 1 := by
  have hNpos : (0 : K) < (p.N : K) := by exact_mod_cast hN
  have key := spike_image_eq_count ops p pstar hwin hg
  refine ⟨?_, fun pt => ?_⟩
  · rw [key, Finset.filter_true_of_mem fun _ _ => rfl, Finset.card_range]
    exact div_self hNpos.ne'
  · rw [key]
    refine ⟨div_nonneg (Nat.cast_nonneg _) hNpos.le, (div_le_one hNpos).2 ?_⟩
    exact_mod_cast (Finset.card_filter_le _ _).trans_eq (Finset.card_range p.N)

/-- Spike focus on the constructed spike data `spikeProblem ops q pstar`. -/
theorem spike_focus (ops : Ops K) (q : Problem K K) (pstar : Nat) (hN : 1 ≤ q.N)
    (hwin : ∀ k < q.N, 0 ≤ ops.round (locB ops q pstar k) ∧
      ops.round (locB ops q pstar k) < (q.n : Int)) :
    dasNoAmp ops stdData (spikeProblem ops q pstar) .nearest 0 pstar = 1 ∧
      ∀ pt, 0 ≤ dasNoAmp ops stdData (spikeProblem ops q pstar) .nearest 0 pt ∧
        dasNoAmp ops stdData (spikeProblem ops q pstar) .nearest 0 pt ≤ 1 :=
  spike_focus_of ops (spikeProblem ops q pstar) pstar hN hwin fun _ _ _ => rfl

end Ordered

/-! ### Non-vacuity: concrete rational data, 2 elements, 3 samples -/
section Examples

/-- reciprocal data on 2 elements, 3 samples: `G i j s = i + j + s/2` -/
def exG : Nat → Nat → Nat → ℚ := fun i j s => ((i + j : Nat) : ℚ) + (s : ℚ) / 2
/-- contact lookup table `[point, element]` -/
def exLk : Nat → Nat → ℚ := fun p e => ((p + e : Nat) : ℚ) / 4
/-- two different ray-tracing tables `[element, point]` -/
def exA : Nat → Nat → ℚ := fun e p => ((e + p : Nat) : ℚ) / 4
def exB : Nat → Nat → ℚ := fun e p => ((2 * e + p : Nat) : ℚ) / 2

theorem exG_symm : ∀ i j s, exG i j s = exG j i s := by
  intro i j s; simp [exG, add_comm]

theorem fmc2 : fmc 2 = [(0, 0), (0, 1), (1, 0), (1, 1)] := by decide

/-- HMC = FMC on the example, linear interpolation: `3 · 3/2 = 4 · 9/8` -/
example : contactTfm (stdOps id) stdData (hmc 2) exG 3 exLk 0 1 .linear 0 0 = 3 / 2 ∧
    contactTfm (stdOps id) stdData (fmc 2) exG 3 exLk 0 1 .linear 0 0 = 9 / 8 := by decide +kernel

/-- nearest interpolation with two of the three HMC lookups out of the window (fill `0`):
`3 · 1/3 = 4 · 1/4` -/
example : contactTfm (stdOps id) stdData (hmc 2) exG 3 exLk 0 (1 / 4) .nearest 0 1 = 1 / 3 ∧
    contactTfm (stdOps id) stdData (fmc 2) exG 3 exLk 0 (1 / 4) .nearest 0 1 = 1 / 4 := by decide +kernel

/-- `hmc_eq_fmc` is false for a non-zero fill value: the fill of an out-of-window lookup is
not weighted, so an off-diagonal out-of-window pair counts once in HMC and twice in FMC. Same
data as above with fill `1`: both images are `1`, and `3 · 1 ≠ 4 · 1`. -/
example : contactTfm (stdOps id) stdData (hmc 2) exG 3 exLk 0 (1 / 4) .nearest 1 1 = 1 ∧
    contactTfm (stdOps id) stdData (fmc 2) exG 3 exLk 0 (1 / 4) .nearest 1 1 = 1 := by decide +kernel

/-- reciprocal views on the FMC frame: both orders of the tables give `21/16` -/
example : tfmForView (stdOps id) stdData (fmc 2) exG 3 exA exB 0 1 .linear 0 0 = 21 / 16 ∧
    tfmForView (stdOps id) stdData (fmc 2) exG 3 exB exA 0 1 .linear 0 0 = 21 / 16 := by decide +kernel

/-- closure under `tx ↔ rx` is needed in `reciprocal_views_coincide`: on the HMC frame the
two orders give `11/8` and `5/4` -/
example : tfmForView (stdOps id) stdData (hmc 2) exG 3 exA exB 0 1 .linear 0 0 = 11 / 8 ∧
    tfmForView (stdOps id) stdData (hmc 2) exG 3 exB exA 0 1 .linear 0 0 = 5 / 4 := by decide +kernel

/-- so is the absence of duplicate pairs: `[(0,1), (0,1), (1,0)]` is closed under
`tx ↔ rx`, the two orders give `11/8` and `5/4` -/
example :
    tfmForView (stdOps id) stdData [(0, 1), (0, 1), (1, 0)] exG 3 exA exB 0 1 .linear 0 0 = 11 / 8 ∧
    tfmForView (stdOps id) stdData [(0, 1), (0, 1), (1, 0)] exG 3 exB exA 0 1 .linear 0 0 = 5 / 4 := by decide +kernel

/-- a problem for the spike test: HMC frame on 2 elements, 3 samples, `dt = 1/4` -/
def exQ : Problem ℚ ℚ := frameProblem (hmc 2) (fun _ _ _ => 0) 3 exLk exLk 0 (1 / 4)

/-- the arrival times of point `0` fall on the samples `0, 1, 2`: all in the window -/
theorem exQ_win : ∀ k < exQ.N, 0 ≤ (stdOps id).round (locB (stdOps id) exQ 0 k) ∧
    (stdOps id).round (locB (stdOps id) exQ 0 k) < (exQ.n : Int) := by decide +kernel

example : dasNoAmp (stdOps id) stdData (spikeProblem (stdOps id) exQ 0) .nearest 0 0 = 1 :=
  (spike_focus _ exQ 0 (by decide) exQ_win).1

end Examples

end Arim.C12
