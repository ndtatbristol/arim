import ArimProofs.Lemmas.Fermat
import ArimProofs.Tie.C01
import Mathlib.Algebra.Order.Group.Nat
/-! # C01 — ray tracing returns the globally fastest discrete ray

Also: index array layout, transparency of the solver's result cache, reversal. The definitions `solveR` and
`scanMin` (through `minPlus`) are the ones the driver executes on `Float`; `costR`, the cost of a given tuple, is not
executed: it is what the statements compare the solver's result with. -/
namespace Arim.C01
open Arim
variable {α : Type} [LinearOrder α]

/-- `_find_minimum_times`, one output cell: for `m > 0` candidates the scan returns the least
candidate and the *first* index at which it is attained. -/
theorem scanMin_spec (f : Nat → α) (m : Nat) (hm : 0 < m) :
    ∃ v k, scanMin f m = some (v, k) ∧ k < m ∧ v = f k ∧ (∀ k', k' < m → v ≤ f k') ∧
      (∀ k', k' < k → v < f k') := by
  induction m, hm using Nat.le_induction with
  | base =>
    exact ⟨f 0, 0, rfl, Nat.one_pos, rfl, fun k' hk' => by rw [Nat.lt_one_iff.1 hk'],
      fun k' hk' => absurd hk' (Nat.not_lt_zero _)⟩
  | succ m _ ih =>
    obtain ⟨v, k, hs, hk, hv, hle, hlt⟩ := ih
    rw [scanMin_succ, hs, kstep]
    split
    · next hc =>
      exact ⟨f m, m, rfl, m.lt_succ_self, rfl,
        Nat.forall_lt_succ_right.2 ⟨fun k' h => (hc.trans_le (hle k' h)).le, le_rfl⟩,
        fun k' h => hc.trans_le (hle k' h)⟩
    · next hc =>
      exact ⟨v, k, rfl, Nat.lt_succ_of_lt hk, hv,
        Nat.forall_lt_succ_right.2 ⟨hle, not_lt.1 hc⟩, hlt⟩

variable [Add α] [AddRightMono α]

/-- Global optimality of `FermatSolver._solve`, in any linearly ordered type whose `· + c` is
monotone (ℝ, ℚ, and the non-NaN IEEE doubles with the solver's own association order): the solver
returns a valid index tuple, the reported time is the left-associated cost of that tuple, and no
valid tuple is faster. -/
theorem solve_optimal (first : Nat → Nat → α) (legs : List (Leg α)) (hpos : allPos legs)
    (i j : Nat) :
    ∃ v ks, solveR first legs i j = some (v, ks.reverse) ∧ validR legs ks ∧
      costR first legs i ks j = some v ∧
      (∀ ks' v', validR legs ks' → costR first legs i ks' j = some v' → v ≤ v') := by
  induction legs generalizing j with
  | nil =>
    exact ⟨first i j, [], rfl, trivial, rfl, fun
      | [], _, _, hc => le_of_eq (Option.some.inj hc)
      | _ :: _, _, hv, _ => hv.elim⟩
  | cons l prev ih =>
    obtain ⟨hm, hprev⟩ := hpos
    -- the best head rays to every point `k` of the last interface; then one min-plus scan
    choose vp ksp hsp hvalp hcostp hminp using ih hprev
    obtain ⟨v, k, hs, hk, hv, hle, -⟩ := scanMin_spec (fun k => vp k + l.t k j) l.m hm
    refine ⟨v, k :: ksp k, ?_, ⟨hk, hvalp k⟩, ?_, ?_⟩
    · simp only [solveR, hsp, Option.map_some, scanMinR_eq_scanMin _ fun k => (ksp k).reverse, hs,
        List.reverse_cons]
    · simp only [costR, hcostp, Option.map_some, hv]
    · rintro (_ | ⟨k', ks''⟩) v' hval hcost
      · exact hval.elim
      · obtain ⟨c, hc, rfl⟩ := Option.map_eq_some_iff.1 hcost
        -- Bellman step: the head of a competitor is no faster than the best head ray to `k'`
        exact (hle k' hval.1).trans (add_le_add_left (hminp k' ks'' c hval.2 hc) _)

/-- Any lower bound `L` of all discrete tuple costs (the continuous Fermat time is one: sample
tuples are particular crossing points) is a lower bound of the reported time, and the reported time
does not exceed the cost of any particular tuple `ks₀` (e.g. the samples nearest to the continuous
crossing points). -/
theorem solve_sandwich (first : Nat → Nat → α) (legs : List (Leg α)) (hpos : allPos legs)
    (i j : Nat) (L : α)
    (hL : ∀ ks' v', validR legs ks' → costR first legs i ks' j = some v' → L ≤ v')
    (ks₀ : List Nat) (v₀ : α) (h₀ : validR legs ks₀) (hc₀ : costR first legs i ks₀ j = some v₀) :
    ∃ v ks, solveR first legs i j = some (v, ks) ∧ L ≤ v ∧ v ≤ v₀ := by
  obtain ⟨v, ks, hs, hval, hcost, hmin⟩ := solve_optimal first legs hpos i j
  exact ⟨v, ks.reverse, hs, hL ks v hval hcost, hmin ks₀ v₀ h₀ hc₀⟩

/-- `solve_optimal` for a path given in path order (tables `ts`, interior sizes `ms`). -/
theorem solveP_optimal (ts : List (Nat → Nat → α)) (ms : List Nat)
    (hlen : ts.length = ms.length + 1) (hpos : ∀ m, m ∈ ms → 0 < m) (i j : Nat) :
    ∃ v ks, solveP ts ms i j = some (v, ks) ∧ validP ms ks ∧ costP ts ms i ks j = some v ∧
      ∀ q v', validP ms q → costP ts ms i q j = some v' → v ≤ v' := by
  cases ts with
  | nil => cases hlen
  | cons t0 rest =>
    have h : rest.length = ms.length := Nat.succ.inj hlen
    obtain ⟨v, ks, hs, hval, hcost, hmin⟩ :=
      solve_optimal t0 (legsP rest ms).reverse (allPos_legsP rest ms h hpos) i j
    exact ⟨v, ks.reverse, hs, (validR_legsP rest ms _ h).1 (by rwa [List.reverse_reverse]),
      by rwa [costP, toR?, List.reverse_reverse],
      fun q v' hq hc => hmin _ v' ((validR_legsP rest ms q h).2 hq) hc⟩

/-- non-vacuity: a two-leg instance over ℕ (interface of 3 points) where the middle point wins -/
example : solveR (fun _ k => [5, 1, 4].getD k 0) [({ m := 3, t := fun k _ => [1, 2, 7].getD k 0 } : Leg Nat)] 0 0
    = some (3, [1]) := by decide +kernel

section Layout
variable {β : Type} [LT β] [DecidableLT β] [Add β]

/-- `Rays.make_indices`: row 0 is the start index, row `d+1` the end index, rows `1..d` the interior
indices in path order. -/
theorem fullIndices_layout (i j : Nat) (ks : List Nat) :
    (fullIndices i j ks)[0]? = some i ∧ (fullIndices i j ks)[ks.length + 1]? = some j ∧
      ∀ d, d < ks.length → (fullIndices i j ks)[d+1]? = ks[d]? :=
  ⟨rfl, (List.getElem?_cons_succ ..).trans (List.getElem?_concat_length ..),
    fun _ hd => (List.getElem?_cons_succ ..).trans (List.getElem?_append_left hd)⟩

/-- A ray of a path with `d` legs after the first (`d` interior interfaces) has exactly `d`
interior indices. -/
theorem solveR_length (first : Nat → Nat → β) (legs : List (Leg β)) (i j : Nat) (v : β)
    (ks : List Nat) (h : solveR first legs i j = some (v, ks)) : ks.length = legs.length := by
  induction legs generalizing j v ks with
  | nil => cases h; rfl
  | cons l prev ih =>
    obtain ⟨k, ks', v', -, rfl, hp, -⟩ := extendTbl_some (h := solveR first prev) h
    rw [List.length_append, ih k v' ks' hp]; rfl

/-- `Rays.expand_rays`: if the solver returns `ks ++ [k]` then `k` is a point of the last
interior interface, `ks` is exactly the interior-index tuple the solver returns for the head
path from `i` to `k` (this is the block `expand_rays` copies), and the time is the head time
plus the last leg. -/
theorem expand_layout (first : Nat → Nat → β) (l : Leg β) (prev : List (Leg β)) (i j : Nat)
    (v : β) (ks : List Nat) (k : Nat)
    (h : solveR first (l :: prev) i j = some (v, ks ++ [k])) :
    k < l.m ∧ ∃ v', solveR first prev i k = some (v', ks) ∧ v = v' + l.t k j := by
  obtain ⟨k', ks', v', hk, hr, hp, hv⟩ := extendTbl_some (h := solveR first prev) h
  obtain ⟨rfl, h2⟩ := List.append_inj' hr rfl
  cases h2
  exact ⟨hk, v', hp, hv⟩
end Layout

section CacheT
variable {β : Type} [LT β] [DecidableLT β] [Add β]

/-- The `cached_result` dict of `FermatSolver._solve` is transparent: if every stored table is the
table of its key solved alone, the call returns the table of `key` solved alone and the new dict
satisfies the invariant again. No order laws are used, so this holds for floats. -/
theorem solveC_transparent (legOf : Nat → Leg β) (cache : Cache β) (key : PKey)
    (hc : CacheInv legOf cache) :
    (solveC legOf cache key).1 = solvePure legOf key ∧
      CacheInv legOf (solveC legOf cache key).2 := by
  simpa only [solveC, List.reverse_reverse] using solveCR_spec legOf key.reverse cache hc

theorem cacheInv_nil (legOf : Nat → Leg β) : CacheInv legOf ([] : Cache β) :=
  fun _ _ h => nomatch h

/-- `FermatSolver.solve` from any dict satisfying the invariant. -/
theorem solveAll_transparent (legOf : Nat → Leg β) (cache : Cache β) (keys : List PKey)
    (hc : CacheInv legOf cache) :
    (solveAll legOf cache keys).1 = keys.map (solvePure legOf) ∧
      CacheInv legOf (solveAll legOf cache keys).2 := by
  induction keys generalizing cache with
  | nil => exact ⟨rfl, hc⟩
  | cons k ks ih =>
    obtain ⟨h1, h2⟩ := solveC_transparent legOf cache k hc
    obtain ⟨h3, h4⟩ := ih _ h2
    exact ⟨by rw [solveAll, h1, h3, List.map_cons], h4⟩

/-- Solving any list of paths one after the other from the empty dict (sharing cached sub-paths, in
whatever order, with repetitions) returns for each path the table of that path solved alone. -/
theorem solve_group_eq_alone (legOf : Nat → Leg β) (keys : List PKey) :
    (solveAll legOf [] keys).1 = keys.map (solvePure legOf) :=
  (solveAll_transparent legOf [] keys (cacheInv_nil legOf)).1

/-- the same, per position, against the memoising solver run alone on a fresh dict -/
theorem solve_group_eq_alone_get (legOf : Nat → Leg β) (keys : List PKey) (n : Nat)
    (key : PKey) (h : keys[n]? = some key) :
    (solveAll legOf [] keys).1[n]? = some ((solveC legOf [] key).1) := by
  rw [solve_group_eq_alone, (solveC_transparent legOf [] key (cacheInv_nil legOf)).1,
    List.getElem?_map, h, Option.map_some]

/-- the table obtained for a path does not depend on which group it was solved in, nor on its
position in the group -/
theorem solve_group_order_irrelevant (legOf : Nat → Leg β) (keys keys' : List PKey) (n n' : Nat)
    (key : PKey) (h : keys[n]? = some key) (h' : keys'[n']? = some key) :
    (solveAll legOf [] keys).1[n]? = (solveAll legOf [] keys').1[n']? := by
  rw [solve_group_eq_alone_get legOf keys n key h, solve_group_eq_alone_get legOf keys' n' key h']

/-- For any dict the old entries stay, behind the new ones, and every key of the new dict is an old
one or a prefix of `key` of length ≥ 2 (one-leg paths are never stored). -/
theorem solveC_cache_grows (legOf : Nat → Leg β) (cache : Cache β) (key : PKey) :
    cache <:+ (solveC legOf cache key).2 ∧
      ∀ p, p ∈ keysOf (solveC legOf cache key).2 → p ∈ keysOf cache ∨ (p <+: key ∧ 2 ≤ p.length) :=
  ⟨solveCR_suffix legOf key.reverse cache, fun p hp => by
    simpa only [List.reverse_reverse] using keys_solveCR_subset legOf key.reverse cache p hp⟩

/-- When the dict is prefix-closed (always the case for a dict produced by the solver from the
empty one) the keys afterwards are exactly the old ones and the prefixes of `key` of length ≥ 2,
and the new dict is prefix-closed again. -/
theorem solveC_keys_of_prefixClosed (legOf : Nat → Leg β) (cache : Cache β) (key : PKey)
    (hcl : PrefixClosed (keysOf cache)) :
    (∀ p, p ∈ keysOf (solveC legOf cache key).2 ↔
      (p ∈ keysOf cache ∨ (p <+: key ∧ 2 ≤ p.length))) ∧
    PrefixClosed (keysOf (solveC legOf cache key).2) := by
  have h := keys_solveCR legOf key.reverse cache hcl
  rw [List.reverse_reverse] at h
  exact ⟨h, hcl.of_mem_iff h⟩

theorem solveAll_cache_keys (legOf : Nat → Leg β) (cache : Cache β) (keys : List PKey)
    (hcl : PrefixClosed (keysOf cache)) :
    (∀ p, p ∈ keysOf (solveAll legOf cache keys).2 ↔
      (p ∈ keysOf cache ∨ ∃ k, k ∈ keys ∧ p <+: k ∧ 2 ≤ p.length)) ∧
    PrefixClosed (keysOf (solveAll legOf cache keys).2) := by
  induction keys generalizing cache with
  | nil => exact ⟨fun p => by simp [solveAll], hcl⟩
  | cons k ks ih =>
    obtain ⟨h1, h2⟩ := solveC_keys_of_prefixClosed legOf cache k hcl
    obtain ⟨h3, h4⟩ := ih _ h2
    refine ⟨fun p => ?_, h4⟩
    rw [solveAll, h3, h1, or_assoc, List.exists_mem_cons_iff]

/-- `cached_result.keys()` after solving `keys` from scratch: the prefixes of length ≥ 2 of the
solved paths. -/
theorem solve_group_cache_keys (legOf : Nat → Leg β) (keys : List PKey) (p : PKey) :
    p ∈ keysOf (solveAll legOf [] keys).2 ↔ ∃ k, k ∈ keys ∧ p <+: k ∧ 2 ≤ p.length := by
  rw [(solveAll_cache_keys legOf [] keys (by intro q hq; cases hq)).1 p]
  exact or_iff_right (List.not_mem_nil)

/-- the association list stays a dict: no key is stored twice -/
theorem solveC_cache_nodup (legOf : Nat → Leg β) (cache : Cache β) (key : PKey)
    (hn : (keysOf cache).Nodup) : (keysOf (solveC legOf cache key).2).Nodup :=
  solveCR_nodup legOf key.reverse cache hn
end CacheT

section Reverse
variable {γ : Type} [LinearOrder γ] [AddCommSemigroup γ] [AddRightMono γ]

/-- `Rays.reverse` preserves the cost of every ray, optimal or not: the cost of the reversed
tuple along the reversed path (transposed tables, opposite order) is the cost of the tuple
along the path. Float `+` is not associative, so for floats this holds only up to rounding once
there are three or more legs. -/
theorem costP_reverse {δ : Type} [AddCommSemigroup δ] (ts : List (Nat → Nat → δ)) (ms : List Nat)
    (hlen : ts.length = ms.length + 1) (i j : Nat) (ks : List Nat) (hk : ks.length = ms.length) :
    costP (revPath ts ms).1 (revPath ts ms).2 j ks.reverse i = costP ts ms i ks j := by
  induction ms generalizing ts i ks with
  | nil =>
    match ts, ks, hlen, hk with
    | [_], [], _, _ => rfl
  | cons m ms ih =>
    match ts, ks, hlen, hk with
    | t0 :: t1 :: rest, k :: ks, hlen, hk =>
      have hlen' : (t1 :: rest).length = ms.length + 1 := Nat.succ.inj hlen
      -- the first leg of the path is the last leg of the reversed path
      rw [revPath_cons, List.reverse_cons, costP_snoc _ _ (revPath_length hlen'),
        ih _ hlen' k ks (Nat.succ.inj hk), costP_cons add_assoc]
      exact congrArg (Option.map · _) (funext fun x => add_comm _ _)

/-- The reversed index tuple of an optimal ray is an optimal ray of the reversed path: it is
valid for the reversed sizes, its cost along the reversed path is the reported time `v`, and no
valid tuple of the reversed path is faster. (The solver run on the reversed path may return a
different tuple when minimisers are not unique; its time is the same by `solve_reverse`.) -/
theorem solve_reverse_indices (ts : List (Nat → Nat → γ)) (ms : List Nat)
    (hlen : ts.length = ms.length + 1) (hpos : ∀ m, m ∈ ms → 0 < m) (i j : Nat)
    (v : γ) (ks : List Nat) (hs : solveP ts ms i j = some (v, ks)) :
    validP ms.reverse ks.reverse ∧
    costP (revPath ts ms).1 (revPath ts ms).2 j ks.reverse i = some v ∧
    (∀ q v', validP ms.reverse q →
      costP (revPath ts ms).1 (revPath ts ms).2 j q i = some v' → v ≤ v') := by
  obtain ⟨v0, ks0, hs0, hval, hcost, hmin⟩ := solveP_optimal ts ms hlen hpos i j
  obtain ⟨rfl, rfl⟩ := Prod.mk.inj (Option.some.inj (hs.symm.trans hs0))
  refine ⟨validP_reverse.2 hval, by rwa [costP_reverse ts ms hlen i j _ hval.length_eq.symm],
    fun q v' hq hc => hmin q.reverse v' (validP_reverse.1 (by rwa [List.reverse_reverse])) ?_⟩
  -- a tuple of the reversed path, read backwards, is a tuple of the path with the same cost
  rw [← costP_reverse ts ms hlen i j _ (by simpa using hq.length_eq.symm), List.reverse_reverse]
  exact hc

/-- Reversal gives the transposed times: in a linearly ordered commutative additive semigroup with
monotone `· + c` (in particular every `[AddCommMonoid α] [LinearOrder α] [IsOrderedAddMonoid α]`:
ℕ, ℤ, ℚ, ℝ), for a path with non-empty interior interfaces the best time from `i` to `j` is the best
time of the reversed path from `j` to `i`. -/
theorem solve_reverse (ts : List (Nat → Nat → γ)) (ms : List Nat)
    (hlen : ts.length = ms.length + 1) (hpos : ∀ m, m ∈ ms → 0 < m) (i j : Nat) :
    (solveP ts ms i j).map (·.1) =
      (solveP (revPath ts ms).1 (revPath ts ms).2 j i).map (·.1) := by
  obtain ⟨v, ks, hs, -⟩ := solveP_optimal ts ms hlen hpos i j
  obtain ⟨w, qs, hs', hval', hcost', hmin'⟩ := solveP_optimal (revPath ts ms).1 (revPath ts ms).2
    (revPath_length hlen) (fun m hm => hpos m (List.mem_reverse.1 hm)) j i
  obtain ⟨hval, hcost, hmin⟩ := solve_reverse_indices ts ms hlen hpos i j v ks hs
  rw [hs, hs']
  exact congrArg some (le_antisymm (hmin qs w hval' hcost') (hmin' _ v hval hcost))

end Reverse

section Examples

/-- table from a list of rows -/
def exTab (rows : List (List Nat)) : Nat → Nat → Nat := fun a b => (rows.getD a []).getD b 0

/-- a three-leg path: 2 × 2, 2 × 3, 3 × 2 tables, interior interfaces of 2 and 3 points -/
def exTs : List (Nat → Nat → Nat) :=
  [exTab [[5, 1], [2, 2]], exTab [[4, 9, 1], [1, 6, 3]], exTab [[3, 8], [2, 2], [7, 1]]]
def exMs : List Nat := [2, 3]

/-- leg identifiers 0, 1, 2 are the legs of `exTs`; 3 is an alternative last leg. Leg 0 only occurs as a first leg, whose
`m` is never read (`solvePure` and `solveCR` take its table only): hence `m := 0` -/
def exLeg : Nat → Leg Nat
  | 0 => { m := 0, t := exTab [[5, 1], [2, 2]] }
  | 1 => { m := 2, t := exTab [[4, 9, 1], [1, 6, 3]] }
  | 2 => { m := 3, t := exTab [[3, 8], [2, 2], [7, 1]] }
  | _ => { m := 3, t := exTab [[1, 1], [9, 0], [2, 5]] }

example : solveP exTs exMs 0 1 = some (5, [1, 2]) := by decide +kernel
/-- reversed path from 1 to 0: same time, reversed interior indices -/
example : solveP (revPath exTs exMs).1 (revPath exTs exMs).2 1 0 = some (5, [2, 1]) := by decide +kernel
example : costP (revPath exTs exMs).1 (revPath exTs exMs).2 1 [2, 1] 0 = some 5 := by decide +kernel
example : solveP exTs exMs 1 0 = some (6, [1, 0]) ∧
    solveP (revPath exTs exMs).1 (revPath exTs exMs).2 0 1 = some (6, [0, 1]) := by decide +kernel

/-- the hypotheses of the reversal theorems are satisfiable (ℕ is an instance) -/
example (i j : Nat) : (solveP exTs exMs i j).map (·.1) =
    (solveP (revPath exTs exMs).1 (revPath exTs exMs).2 j i).map (·.1) :=
  solve_reverse exTs exMs (by decide) (by decide) i j

/-- solving `[0,1,2]` from the empty dict stores `[0,1]` then `[0,1,2]`, not `[0]` -/
example : keysOf (solveC exLeg [] [0, 1, 2]).2 = [[0, 1, 2], [0, 1]] := by decide +kernel
/-- three paths sharing the head `[0,1]`: it is stored once -/
example : keysOf (solveAll exLeg [] [[0, 1, 2], [0, 1], [0, 1, 3]]).2 =
    [[0, 1, 3], [0, 1, 2], [0, 1]] := by decide +kernel
example : (solveAll exLeg [] [[0, 1, 2], [0, 1], [0, 1, 3]]).1.map (fun t => t 0 1) =
    [some (5, [1, 2]), some (7, [1]), some (3, [1, 0])] := by decide +kernel
example : [[0, 1, 2], [0, 1], [0, 1, 3]].map (fun k => solvePure exLeg k 0 1) =
    [some (5, [1, 2]), some (7, [1]), some (3, [1, 0])] := by decide +kernel
/-- a second solve of a cached key is a pure hit: nothing is added -/
example : keysOf (solveC exLeg (solveC exLeg [] [0, 1, 2]).2 [0, 1, 2]).2 =
    [[0, 1, 2], [0, 1]] := by decide +kernel

example : fullIndices 4 7 [1, 2] = [4, 1, 2, 7] := by decide +kernel
/-- `expand_layout` on the instance: the head `[1]` of the ray `[1, 2]` is the ray of the
    two-leg head path to the chosen point 2 -/
example : solveR (exLeg 0).t [exLeg 1] 0 2 = some (4, [1]) := by decide +kernel

end Examples

/-! The kernel as translated from the source on this run:
`Src.find_minimum_times_cell` (file `Generated/SrcC01.lean`) is the translation, for one output cell `(i, j)`, of
`arim.ray._find_minimum_times` made from `/repo/src` on every run; `Tie.C01.tie_find_minimum_times` identifies it
with `minPlus`/`scanMin`. -/
section OnSource
open Arim.Tie.C01
variable [Sub α] [Mul α] [Div α] [Neg α]

/-- the translated min-plus kernel returns the minimum and a point that realises it: entered with `(inf, -1)`,
`inf` above every candidate (as the call site does), the cell `(i, j)` ends with the least `t1[i,k] + t2[k,j]` and the
first index `k` at which it is attained. -/
theorem src_find_minimum_times_spec (o : Src.Ops α) (t1 t2 : Nat → Nat → α) (inf : α) (m i j : Nat) (hm : 0 < m)
    (hinf : ∀ k, k < m → t1 i k + t2 k j < inf) :
    ∃ (v : α) (k : Nat), Src.find_minimum_times_cell o t1 t2 inf (-1) m i j = (v, (k : Int)) ∧ k < m ∧ v = t1 i k + t2 k j ∧
      (∀ k', k' < m → v ≤ t1 i k' + t2 k' j) ∧ (∀ k', k' < k → v < t1 i k' + t2 k' j) := by
  obtain ⟨v, k, hs, hcell⟩ := tie_find_minimum_times_inf o t1 t2 inf m i j hm hinf
  obtain ⟨v', k', hs', hk, hv, hle, hfirst⟩ := scanMin_spec (fun k => t1 i k + t2 k j) m hm
  obtain ⟨rfl, rfl⟩ := Prod.mk.inj (Option.some.inj (hs.symm.trans hs'))
  exact ⟨v, k, hcell, hk, hv, hle, hfirst⟩

/-- with no candidate (`m = 0`) the cell keeps its entry values -/
theorem src_find_minimum_times_empty (o : Src.Ops α) (t1 t2 : Nat → Nat → α) (t0 : α) (i0 : Int) (i j : Nat) :
    Src.find_minimum_times_cell o t1 t2 t0 i0 0 i j = (t0, i0) := by
  rw [tie_find_minimum_times]; rfl

/-- translated `_expand_rays`, one ray: if `new[i, j]` is a valid point number of the last interior interface
(`0 ≤ · < size`) and the column of `interior` for the ray from `i` to that point lists valid point numbers of the
interfaces before it, then the expanded column lists valid point numbers of all interior interfaces -/
theorem src_expand_rays_valid (o : Src.Ops α) (interior : Nat → Nat → Nat → Int) (new : Nat → Nat → Int) (sizes : Nat → Nat)
    (d i j : Nat) (hnew : 0 ≤ new i j ∧ new i j < sizes d)
    (hint : ∀ k, k < d → 0 ≤ interior k i (new i j).toNat ∧ interior k i (new i j).toNat < sizes k) :
    (Src.expand_rays_cell o interior new d i j).length = d + 1 ∧
    ∀ k (hk : k < (Src.expand_rays_cell o interior new d i j).length),
      0 ≤ (Src.expand_rays_cell o interior new d i j)[k] ∧ (Src.expand_rays_cell o interior new d i j)[k] < sizes k := by
  have hlen := (tie_expand_rays_shape o interior new d i j).1
  refine ⟨hlen, fun k hk => ?_⟩
  rw [hlen] at hk
  simp only [tie_expand_rays, List.getElem_append, List.length_map, List.length_range]
  split
  · next h => simpa only [List.getElem_map, List.getElem_range] using hint k h
  · next h =>
    obtain rfl : k = d := by omega
    simpa only [List.getElem_singleton] using hnew

end OnSource

end Arim.C01
