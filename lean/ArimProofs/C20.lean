import ArimModel.Config
import ArimProofs.Lemmas.Config
/-! # C20 — configuration merging and file loading are deterministic and lossless

The sort by name, `upsert` and `mergeKVs` seen through `lookup` and through the keys, and the well-formed trees on
which `combine` is idempotent are in `Lemmas/Config.lean` (the general facts about a first-match `lookup` in
`Lemmas/Assoc.lean`). -/
namespace Arim.C20
open Arim.Config

/-- BRAIN's 1-based indices are converted to 0-based ones, one for one -/
theorem brain_index (k : Nat) : brainIndex (k + 1) = some k := by
  simp [brainIndex]

/-- merging in enumeration order is not order independent (the defect of an unsorted glob): two
fragments that set the same key leave `a = 2` in one enumeration order and `a = 1` in the other -/
theorem load_listing_order_counter :
    loadConfListingOrder (.node []) [("10_a", .node [("a", .leaf "1")]), ("05_z", .node [("a", .leaf "2")])]
      ≠ loadConfListingOrder (.node []) [("05_z", .node [("a", .leaf "2")]), ("10_a", .node [("a", .leaf "1")])] := by
  simp [loadConfListingOrder]

/-- `load_conf` gives the same configuration whatever the order in which the file system lists
the fragments, provided file names are distinct (they are: one directory). -/
theorem load_order_independent (base : Cfg) (l₁ l₂ : List (String × Cfg)) (hp : l₁.Perm l₂)
    (hnd : (l₁.map (·.1)).Nodup) : loadConf base l₁ = loadConf base l₂ := by
  rw [loadConf_eq, sortByName_eq_of_perm hp hnd, ← loadConf_eq]

/-- `load_conf` drops and duplicates no fragment, and merges them in the order of their names -/
theorem sort_is_sorted_perm (l : List (String × Cfg)) :
    (sortByName l).Perm l ∧ (sortByName l).Pairwise (fun a b => a.1 ≤ b.1) :=
  ⟨sortByName_perm l, sortByName_sorted l⟩

/-- `recursive_dict_merge`: a key set by `top` ends up holding `top`'s value, recursively combined
with the old value if there was one (the keys of `top` are distinct; nothing is assumed about `b`) -/
theorem merge_later_wins (b t : KVs) (ht : (t.map (·.1)).Nodup) (k : String) (v : Cfg)
    (h : get? (.node t) k = some v) :
    get? (merge (.node b) (.node t)) k
      = some (match get? (.node b) k with | some old => combine old v | none => v) := by
  rw [get?_node] at h
  rw [merge_node_node, get?_node]
  exact lookup_mergeKVs_of_some ht h b

theorem merge_leaf_wins (b t : KVs) (ht : (t.map (·.1)).Nodup) (k s : String)
    (h : get? (.node t) k = some (.leaf s)) :
    get? (merge (.node b) (.node t)) k = some (.leaf s) := by
  rw [merge_later_wins b t ht k _ h]
  cases get? (.node b) k <;> simp

/-- keys not mentioned by `top` keep their value (no hypothesis on key distinctness) -/
theorem merge_keeps_untouched (b t : KVs) (k : String) (h : get? (.node t) k = none) :
    get? (merge (.node b) (.node t)) k = get? (.node b) k := by
  rw [get?_node] at h
  rw [merge_node_node, get?_node]
  exact lookup_mergeKVs_of_none h b

/-- mappings present on both sides are merged, not replaced -/
theorem merge_nested (b t : KVs) (ht : (t.map (·.1)).Nodup) (k : String) (bb tt : KVs)
    (hb : get? (.node b) k = some (.node bb)) (h : get? (.node t) k = some (.node tt)) :
    get? (merge (.node b) (.node t)) k = some (.node (mergeKVs bb tt)) := by
  rw [merge_later_wins b t ht k _ h, hb]
  simp

theorem merge_keys (b t : KVs) (k : String) :
    k ∈ keys (merge (.node b) (.node t)) ↔ k ∈ keys (.node b) ∨ k ∈ keys (.node t) := by
  rw [merge_node_node]
  exact mem_keys_mergeKVs b t k

/-- the keys of `base` keep their positions and what `top` adds comes after them: merging never
reorders `base` -/
theorem merge_keys_prefix (b t : KVs) :
    ∃ extra, keys (merge (.node b) (.node t)) = keys (.node b) ++ extra := by
  simp only [merge_node_node, keys_node]
  induction t generalizing b with
  | nil => exact ⟨[], by simp [mergeKVs_nil]⟩
  | cons p rest ih =>
    obtain ⟨k, v⟩ := p
    rw [mergeKVs_cons]
    obtain ⟨e, he⟩ := ih (upsert k (fun old => combine old v) v b)
    rw [he, keys_upsert]
    split
    · exact ⟨e, rfl⟩
    · exact ⟨k :: e, by simp⟩

theorem merge_wf (b t : Cfg) (hb : WF b) (ht : WF t) : WF (merge b t) :=
  combine_mergeKVs_wf.1 t ht b hb

/-- applying the same well-formed fragment twice is the same as applying it once; `b` is
arbitrary (it need not be well formed, nor a mapping) -/
theorem merge_idempotent (b t : Cfg) (ht : WF t) : merge (merge b t) t = merge b t :=
  combine_idem_aux.1 t ht b

theorem merge_self (t : Cfg) (ht : WF t) : merge t t = t := by
  simpa using merge_idempotent (.leaf "") t ht

theorem load_wf (base : Cfg) (l : List (String × Cfg)) (hb : WF base)
    (hl : ∀ f ∈ l, WF f.2) : WF (loadConf base l) :=
  loadConf_induction hb fun _ hacc f hf => merge_wf _ _ hacc (hl f hf)

/-- later fragments win: the fragment whose name comes strictly after every other name is merged
after all the others -/
theorem load_last_fragment (base : Cfg) (x : String × Cfg) (l : List (String × Cfg))
    (h : ∀ y ∈ l, ¬ x.1 ≤ y.1) : loadConf base (x :: l) = merge (loadConf base l) x.2 := by
  rw [loadConf_eq, sortByName_cons,
    insertByName_last x _ fun y hy => h y ((sortByName_perm l).subset hy), List.foldl_append]
  rfl

/-- the same, wherever the file system lists that fragment (distinct file names) -/
theorem load_last_fragment_anywhere (base : Cfg) (x : String × Cfg) (l listing : List (String × Cfg))
    (hp : listing.Perm (x :: l)) (hnd : (listing.map (·.1)).Nodup) (h : ∀ y ∈ l, ¬ x.1 ≤ y.1) :
    loadConf base listing = merge (loadConf base l) x.2 := by
  rw [load_order_independent base listing (x :: l) hp hnd, load_last_fragment base x l h]

theorem load_is_node (b : KVs) (l : List (String × Cfg)) (hl : ∀ f ∈ l, ∃ t, f.2 = .node t) :
    ∃ b', loadConf (.node b) l = .node b' :=
  loadConf_induction (P := fun c => ∃ b', c = .node b') ⟨b, rfl⟩ fun _ ⟨b', hb'⟩ f hf =>
    let ⟨t, ht⟩ := hl f hf
    ⟨mergeKVs b' t, by rw [hb', ht, merge_node_node]⟩

/-- a scalar (a string, a number, `null`) set by the alphabetically last fragment is the value of
that key in the loaded configuration, whatever the base file and the earlier fragments hold
under it (a mapping included) -/
theorem load_last_fragment_leaf_wins (b : KVs) (name : String) (t : KVs) (l : List (String × Cfg))
    (hl : ∀ f ∈ l, ∃ t', f.2 = .node t') (h : ∀ y ∈ l, ¬ name ≤ y.1) (ht : (t.map (·.1)).Nodup) (k s : String)
    (hk : get? (.node t) k = some (.leaf s)) :
    get? (loadConf (.node b) ((name, .node t) :: l)) k = some (.leaf s) := by
  rw [load_last_fragment (.node b) (name, .node t) l h]
  obtain ⟨b', hb'⟩ := load_is_node b l hl
  rw [hb']
  exact merge_leaf_wins b' t ht k s hk

/-- keys the last fragment does not mention keep the value the earlier files gave them -/
theorem load_last_fragment_keeps_untouched (b : KVs) (name : String) (t : KVs) (l : List (String × Cfg))
    (hl : ∀ f ∈ l, ∃ t', f.2 = .node t') (h : ∀ y ∈ l, ¬ name ≤ y.1) (k : String) (hk : get? (.node t) k = none) :
    get? (loadConf (.node b) ((name, .node t) :: l)) k = get? (loadConf (.node b) l) k := by
  rw [load_last_fragment (.node b) (name, .node t) l h]
  obtain ⟨b', hb'⟩ := load_is_node b l hl
  rw [hb']
  exact merge_keeps_untouched b' t k hk

theorem load_no_fragment (base : Cfg) : loadConf base [] = base := rfl

/-- updating by `b` then by `c` differs from updating by (`b` updated by `c`) when a scalar sits
between two mappings, which is why `load_conf` must fold the fragments from the left, in order,
as the model does -/
theorem merge_not_associative :
    ∃ a b c : Cfg, WF a ∧ WF b ∧ WF c ∧ merge (merge a b) c ≠ merge a (merge b c) := by
  refine ⟨.node [("k", .node [("x", .leaf "1")])], .node [("k", .leaf "s")], .node [("k", .node [("y", .leaf "2")])], ?_, ?_, ?_, ?_⟩
  · simp [wf_node_iff]
  · simp [wf_node_iff]
  · simp [wf_node_iff]
  · simp

/-- `null` in a later fragment over a mapping of the base file (the leaf `~` is YAML's null) -/
example :
    get? (loadConf (.node [("backwall", .node [("z", .leaf "0.03")])])
      [("30_no_backwall", .node [("backwall", .leaf "~")]), ("10_a", .node [("a", .leaf "1")])]) "backwall" = some (.leaf "~") :=
  load_last_fragment_leaf_wins _ _ _ _ (by simp) (by decide +kernel) (by simp) _ _ (by simp [get?])

example :
    merge (.node [("a", .leaf "1"), ("sub", .node [("x", .leaf "p"), ("y", .leaf "q")])])
          (.node [("sub", .node [("y", .leaf "r"), ("z", .leaf "s")]), ("b", .leaf "2")])
      = .node [("a", .leaf "1"),
               ("sub", .node [("x", .leaf "p"), ("y", .leaf "r"), ("z", .leaf "s")]),
               ("b", .leaf "2")] := by
  simp

example : WF (.node [("sub", .node [("y", .leaf "r"), ("z", .leaf "s")]), ("b", .leaf "2")]) := by
  simp [wf_node_iff]

/-- `WF` is needed for idempotence: a fragment holding a "mapping" with a repeated key (not a
Python dict) that replaces a scalar is not absorbed by a second application -/
example :
    let b : Cfg := .node [("k", .leaf "0")]
    let t : Cfg := .node [("k", .node [("j", .leaf "1"), ("j", .leaf "2")])]
    merge (merge b t) t ≠ merge b t := by
  simp

example :
    loadConf (.node []) [("10_a", .node [("a", .leaf "1")]), ("05_z", .node [("a", .leaf "2")])]
      = loadConf (.node []) [("05_z", .node [("a", .leaf "2")]), ("10_a", .node [("a", .leaf "1")])] :=
  load_order_independent _ _ _ (List.Perm.swap _ _ _) (by simp)

/-- an empty fragment file (`{}`) changes nothing -/
theorem merge_empty_fragment (b : KVs) : merge (.node b) (.node []) = .node b := by
  rw [merge_node_node, mergeKVs_nil]

/-- any number of empty fragments, whatever their names, change nothing -/
theorem load_empty_fragments (b : KVs) (l : List (String × Cfg)) (hl : ∀ f ∈ l, f.2 = .node []) :
    loadConf (.node b) l = .node b :=
  loadConf_induction (P := (· = .node b)) rfl fun _ hacc f hf => by
    rw [hacc, hl f hf, merge_empty_fragment]

end Arim.C20
