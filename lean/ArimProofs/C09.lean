import ArimModel.ScatFn
import ArimProofs.Lemmas.ScatFn
import Mathlib.Analysis.SpecialFunctions.Trigonometric.Basic
import Mathlib.Algebra.Ring.Periodic
import Mathlib.LinearAlgebra.Matrix.NonsingularInverse
import Mathlib.Tactic.FieldSimp
import Mathlib.Tactic.Ring
import Mathlib.Tactic.LinearCombination
import Mathlib.Tactic.NormNum
/-! # C09 — scattering functions satisfy reciprocity and their geometric symmetries

`S_LL`, `S_TT` symmetric under exchange of the two angles, `v_T² S_LT(a,b) = −v_L² S_TL(b,a)` and
`2π`-periodicity in each angle, for the point source, the side-drilled hole (`sdh_2d_scat`, for all
modal coefficient sequences and all `maxn`) and the crack centre (`crack_2d_scat`, for every pair
of symmetric bilinear forms `qx`, `qz`).  Hankel functions and Galerkin solves are parameters of the
model: everything follows from the shape of the formulas.

The model computes each of `LL`, `LT`, `TL`, `TT` by its own function with no `to_compute`
argument, so "a subset of keys gives the same values as the full set" holds by construction and
is not stated as a theorem. -/
namespace Arim.C09
open Arim.ScatFn Arim.ScatFnLemmas

/-- `PointSourceScat`: `v_T² S_LT = −v_L² S_TL` -/
theorem point_reciprocity {C : Type} [Field C] (vL vT : C) (hL : vL ≠ 0) (hT : vT ≠ 0) :
    vT * vT * pointLT vL vT = -(vL * vL * pointTL vL vT) := by
  unfold pointLT pointTL
  field_simp

/-- `PointSourceScat`: the four functions take no angles, so exchange symmetry and periodicity are
trivial; `S_LL = S_TT = 1`, `S_LT · S_TL = −1` -/
theorem point_symm {C : Type} [Field C] (vL vT : C) (hL : vL ≠ 0) (hT : vT ≠ 0) :
    pointLL (1 : C) = 1 ∧ pointTT (1 : C) = 1 ∧ pointLT vL vT * pointTL vL vT = -1 := by
  refine ⟨rfl, rfl, ?_⟩
  unfold pointLT pointTL
  field_simp

/-- `sdh_2d_scat`: the four functions depend on the two angles through `out − inc` only -/
theorem sdh_difference_only {C : Type} [Field C] (t : STrig C) (k : SdhCoef C) (inc out d : C) :
    sdhLL t k (inc + d) (out + d) = sdhLL t k inc out ∧ sdhTT t k (inc + d) (out + d) = sdhTT t k inc out ∧
    sdhLT t k (inc + d) (out + d) = sdhLT t k inc out ∧ sdhTL t k (inc + d) (out + d) = sdhTL t k inc out := by
  have h : out + d - (inc + d) = out - inc := by ring
  simp only [sdhLL, sdhTT, sdhLT, sdhTL, h, and_self]

/-- complex trigonometry; `s` stands for `np.sqrt(1j)` (its value is irrelevant below) -/
noncomputable def tC (s : ℂ) : STrig ℂ :=
  { sin := Complex.sin, cos := Complex.cos, ofNat := fun n => (n : ℂ), pi := (Real.pi : ℂ),
    sqrtI := s, zero := 0 }

@[simp] theorem tC_sin (s : ℂ) : (tC s).sin = Complex.sin := rfl
@[simp] theorem tC_cos (s : ℂ) : (tC s).cos = Complex.cos := rfl
@[simp] theorem tC_ofNat (s : ℂ) (n : ℕ) : (tC s).ofNat n = (n : ℂ) := rfl
@[simp] theorem tC_pi (s : ℂ) : (tC s).pi = (Real.pi : ℂ) := rfl
@[simp] theorem tC_sqrtI (s : ℂ) : (tC s).sqrtI = s := rfl
@[simp] theorem tC_zero (s : ℂ) : (tC s).zero = 0 := rfl

/-- `sdh_2d_scat`: `S_LL(a, b) = S_LL(b, a)` for every coefficient sequence `aLL` and every `maxn` -/
theorem sdh_LL_symm (s : ℂ) (k : SdhCoef ℂ) (a b : ℂ) :
    sdhLL (tC s) k a b = sdhLL (tC s) k b a := by
  simp only [sdhLL, tC_cos, tC_pi]
  rw [modalSum_congr (tC s) _ _ fun n =>
    (periodic_nat_swap Complex.cos_periodic n b a).trans (Complex.cos_neg _)]

/-- `sdh_2d_scat`: `S_TT(a, b) = S_TT(b, a)` for every coefficient sequence `bTT` and every `maxn` -/
theorem sdh_TT_symm (s : ℂ) (k : SdhCoef ℂ) (a b : ℂ) :
    sdhTT (tC s) k a b = sdhTT (tC s) k b a := by
  simp only [sdhTT, tC_cos, tC_pi]
  rw [modalSum_congr (tC s) _ _ fun n =>
    (periodic_nat_swap Complex.cos_periodic n b a).trans (Complex.cos_neg _)]

/-- `sdh_2d_scat`: `v_T² S_LT(a, b) = −v_L² S_TL(b, a)` for every shared coefficient
sequence `x` and every `maxn`, under `β v_T = α v_L` (`α = 2πf r / v_L`, `β = 2πf r / v_T`) -/
theorem sdh_LT_TL_reciprocity (s : ℂ) (k : SdhCoef ℂ) (vL vT a b : ℂ)
    (hv : k.beta * vT = k.alpha * vL) (hα : k.alpha ≠ 0) (hβ : k.beta ≠ 0) :
    vT ^ 2 * sdhLT (tC s) k a b = -(vL ^ 2 * sdhTL (tC s) k b a) := by
  have e : vT ^ 2 * k.beta / k.alpha = vL ^ 2 * k.alpha / k.beta := by
    rw [div_eq_div_iff hα hβ]; linear_combination (k.beta * vT + k.alpha * vL) * hv
  simp only [sdhLT, sdhTL, tC_sin, tC_pi, tC_sqrtI]
  rw [modalSum_neg (tC s) rfl _ _ fun n =>
      (periodic_nat_swap Complex.sin_periodic n a b).trans (Complex.sin_neg _),
    modalSum_coef_div (tC s) rfl, modalSum_coef_div (tC s) rfl]
  -- after these rewrites both sides carry the same modal sum `M` (at `b − a + π`, the sine being odd):
  -- `v_T² · (s/π · β · M / (π α)) = v_L² · (s/π · α · M / (π β))`, which is `e` times `s M / π²`
  generalize modalSum (tC s) Complex.sin _ _ _ = M
  linear_combination (s * M / (Real.pi : ℂ) ^ 2) * e

theorem modalSum_add_two_pi {f : ℂ → ℂ} (hf : Function.Periodic f (2 * (Real.pi : ℂ))) (s φ : ℂ)
    (coef : ℕ → ℂ) (maxn : ℕ) (k : ℤ) :
    modalSum (tC s) f (φ + 2 * (Real.pi : ℂ) * k) coef maxn = modalSum (tC s) f φ coef maxn :=
  modalSum_congr (tC s) coef maxn fun n => periodic_nat_mul_add_int hf n k φ

/-- `sdh_2d_scat`: each of the four functions is `2π`-periodic in each angle separately -/
theorem sdh_periodic (s : ℂ) (k : SdhCoef ℂ) (a b : ℂ) (k₁ k₂ : ℤ) :
    sdhLL (tC s) k (a + 2 * (Real.pi : ℂ) * k₁) (b + 2 * (Real.pi : ℂ) * k₂) = sdhLL (tC s) k a b ∧
    sdhTT (tC s) k (a + 2 * (Real.pi : ℂ) * k₁) (b + 2 * (Real.pi : ℂ) * k₂) = sdhTT (tC s) k a b ∧
    sdhLT (tC s) k (a + 2 * (Real.pi : ℂ) * k₁) (b + 2 * (Real.pi : ℂ) * k₂) = sdhLT (tC s) k a b ∧
    sdhTL (tC s) k (a + 2 * (Real.pi : ℂ) * k₁) (b + 2 * (Real.pi : ℂ) * k₂) = sdhTL (tC s) k a b := by
  have h : b + 2 * (Real.pi : ℂ) * k₂ - (a + 2 * (Real.pi : ℂ) * k₁) + (Real.pi : ℂ)
      = (b - a + (Real.pi : ℂ)) + 2 * (Real.pi : ℂ) * ((k₂ - k₁ : ℤ) : ℂ) := by
    rw [Int.cast_sub]; ring
  simp only [sdhLL, sdhTT, sdhLT, sdhTL, tC_sin, tC_cos, tC_pi, h,
    modalSum_add_two_pi Complex.cos_periodic, modalSum_add_two_pi Complex.sin_periodic, and_self]

/-- why the forms `qx`, `qz` of the crack kernel are symmetric (`CrackOK`): they are
`u, v ↦ uᵀ A⁻¹ v` for the Toeplitz matrices `A_x`, `A_z` (`I_12[m_ind]` with `I_12` mirrored, in
`_scat_crack.py`; their symmetry is assumed, the matrices are not modelled).  No invertibility
hypothesis is needed (Mathlib's `A⁻¹` is `0` for a singular matrix). -/
theorem symm_inv_form {n K : Type} [Fintype n] [DecidableEq n] [Field K]
    (A : Matrix n n K) (hA : A.transpose = A) (u v : n → K) :
    u ⬝ᵥ (A⁻¹.mulVec v) = v ⬝ᵥ (A⁻¹.mulVec u) := by
  have hinv : (A⁻¹).transpose = A⁻¹ := by rw [Matrix.transpose_nonsing_inv, hA]
  rw [Matrix.dotProduct_mulVec, ← Matrix.mulVec_transpose, hinv, dotProduct_comm]

/-- the same as `crack_2d_scat` computes it: `np.dot(np.linalg.solve(A, v), u)` is symmetric in
`u, v` -/
theorem symm_solve_form {n K : Type} [Fintype n] [DecidableEq n] [Field K]
    (A : Matrix n n K) (hA : A.transpose = A) (hdet : IsUnit A.det) (u v x y : n → K)
    (hx : A.mulVec x = v) (hy : A.mulVec y = u) : u ⬝ᵥ x = v ⬝ᵥ y := by
  have sol {x v : n → K} (h : A.mulVec x = v) : x = A⁻¹.mulVec v := by
    rw [← h, Matrix.mulVec_mulVec, Matrix.nonsing_inv_mul A hdet, Matrix.one_mulVec]
  rw [sol hx, sol hy]
  exact symm_inv_form A hA u v

variable {V : Type}

/-- what the crack theorems assume of the data; `lam_eq` is the elastic relation
(`λ = ρ (v_L² − 2 v_T²)`, `μ = ρ v_T²`, `ξ = v_T / v_L`) -/
structure CrackOK (d : CrackData ℂ V) : Prop where
  qx_symm : ∀ u v, d.qx u v = d.qx v u
  qz_symm : ∀ u v, d.qz u v = d.qz v u
  qx_smul : ∀ c u v, d.qx (d.smulV c u) v = c * d.qx u v
  qz_smul : ∀ c u v, d.qz (d.smulV c u) v = c * d.qz u v
  one_eq : d.one = 1
  two_eq : d.two = 2
  lam_eq : d.lam = d.mu * (1 / d.xi ^ 2 - 2)

/-- The angular kernel common to the four crack functions: `S_XY(a, b)` is, up to constants, this
bilinear expression in the weights `(w_x, w_z)` of the incident mode at `a` and of the scattered
mode at `b`.  It is symmetric under exchange of the two sides, which is all that reciprocity uses. -/
def crackKer (d : CrackData ℂ V) (p q : ℂ × ℂ) (u v : V) : ℂ :=
  p.1 * q.1 * d.qx u v + p.2 * q.2 * d.qz u v

theorem crackKer_symm {d : CrackData ℂ V} (h : CrackOK d) (p q : ℂ × ℂ) (u v : V) :
    crackKer d p q u v = crackKer d q p v u := by
  rw [crackKer, crackKer, h.qx_symm u, h.qz_symm u, mul_comm p.1, mul_comm p.2]

/-- weights of an L wave at angle `φ`: `(sin 2φ, 1/ξ² − 2 sin² φ)` -/
noncomputable def wL (d : CrackData ℂ V) (φ : ℂ) : ℂ × ℂ :=
  (2 * Complex.sin φ * Complex.cos φ, 1 / d.xi ^ 2 - 2 * Complex.sin φ ^ 2)

/-- weights of a T wave at angle `φ`: `(cos 2φ, −sin 2φ)` -/
noncomputable def wT (φ : ℂ) : ℂ × ℂ :=
  (Complex.cos φ ^ 2 - Complex.sin φ ^ 2, -(2 * Complex.sin φ * Complex.cos φ))

/-- receiving an L wave at angle `b` (`e = (sin b, cos b)`): with `λ = μ (q − 2)`, `q = 1/ξ²`, the
stress combination `λ v_z + 2 μ (v_x e₀ + v_z e₁) e₁` is `μ` times the L weights of `b` applied to
`(v_x, v_z)` -/
theorem crack_recvL (μ q e0 e1 vx vz : ℂ) (h : e0 ^ 2 + e1 ^ 2 = 1) :
    μ * (q - 2) * vz + 2 * μ * (vx * e0 + vz * e1) * e1
      = μ * (2 * e0 * e1 * vx + (q - 2 * e0 ^ 2) * vz) := by
  linear_combination (2 * μ * vz) * h

theorem crackLL_eq (s : ℂ) (d : CrackData ℂ V) (h : CrackOK d) (a b : ℂ) :
    crackLL (tC s) d a b
      = -(d.kLL * d.aL * d.mu * crackKer d (wL d a) (wL d b) (d.bL a) (d.bL b)) := by
  simp only [crackLL, crackKer, wL, tC_sin, tC_cos, h.qx_smul, h.qz_smul, h.one_eq, h.two_eq,
    h.lam_eq, crack_recvL _ _ _ _ _ _ (Complex.sin_sq_add_cos_sq b)]
  ring

theorem crackLT_eq (s : ℂ) (d : CrackData ℂ V) (h : CrackOK d) (a b : ℂ) :
    crackLT (tC s) d a b
      = -(d.kTT * d.aL * d.mu * crackKer d (wL d a) (wT b) (d.bL a) (d.bT b)) := by
  simp only [crackLT, crackKer, wL, wT, tC_sin, tC_cos, h.qx_smul, h.qz_smul, h.one_eq, h.two_eq]
  ring

theorem crackTL_eq (s : ℂ) (d : CrackData ℂ V) (h : CrackOK d) (a b : ℂ) :
    crackTL (tC s) d a b
      = d.kLL * d.aT * d.mu * crackKer d (wT a) (wL d b) (d.bT a) (d.bL b) := by
  simp only [crackTL, crackKer, wL, wT, tC_sin, tC_cos, h.qx_smul, h.qz_smul, h.two_eq, h.lam_eq,
    crack_recvL _ _ _ _ _ _ (Complex.sin_sq_add_cos_sq b)]
  ring

theorem crackTT_eq (s : ℂ) (d : CrackData ℂ V) (h : CrackOK d) (a b : ℂ) :
    crackTT (tC s) d a b
      = d.kTT * d.aT * d.mu * crackKer d (wT a) (wT b) (d.bT a) (d.bT b) := by
  simp only [crackTT, crackKer, wT, tC_sin, tC_cos, h.qx_smul, h.qz_smul, h.two_eq]
  ring

/-- `crack_2d_scat`: `S_LL(a, b) = S_LL(b, a)` -/
theorem crack_LL_symm (s : ℂ) (d : CrackData ℂ V) (h : CrackOK d) (a b : ℂ) :
    crackLL (tC s) d a b = crackLL (tC s) d b a := by
  rw [crackLL_eq s d h, crackLL_eq s d h, crackKer_symm h]

/-- `crack_2d_scat`: `S_TT(a, b) = S_TT(b, a)` -/
theorem crack_TT_symm (s : ℂ) (d : CrackData ℂ V) (h : CrackOK d) (a b : ℂ) :
    crackTT (tC s) d a b = crackTT (tC s) d b a := by
  rw [crackTT_eq s d h, crackTT_eq s d h, crackKer_symm h]

/-- `crack_2d_scat`: `kLL · a_T · S_LT(a, b) = −kTT · a_L · S_TL(b, a)`; the constants involve neither
`μ`, `λ` nor `ξ` -/
theorem crack_LT_TL_reciprocity (s : ℂ) (d : CrackData ℂ V) (h : CrackOK d) (a b : ℂ) :
    d.kLL * d.aT * crackLT (tC s) d a b = -(d.kTT * d.aL * crackTL (tC s) d b a) := by
  rw [crackLT_eq s d h, crackTL_eq s d h, crackKer_symm h]
  ring

/-- if `kTT · a_L · v_T² = kLL · a_T · v_L²` then `v_T² S_LT(a, b) = −v_L² S_TL(b, a)` (no
non-vanishing hypothesis) -/
theorem crack_LT_TL_reciprocity_vel (s : ℂ) (d : CrackData ℂ V) (h : CrackOK d) (vL vT a b : ℂ)
    (hK : d.kTT * d.aL * vT ^ 2 = d.kLL * d.aT * vL ^ 2) :
    vT ^ 2 * crackLT (tC s) d a b = -(vL ^ 2 * crackTL (tC s) d b a) := by
  rw [crackLT_eq s d h, crackTL_eq s d h, crackKer_symm h]
  linear_combination -(d.mu * crackKer d (wT b) (wL d a) (d.bT b) (d.bL a)) * hK

/-- `crack_2d_scat`: `v_T² S_LT(a, b) = −v_L² S_TL(b, a)` with `a_L`, `a_T`, `kLL`, `kTT` as
`crack_2d_scat_kernel` computes them (`g = ¼ √(2/π) e^{−iπ/4}`); `a_L` and `a_T` both divide by `ξ₂² = (2πf/v_T)²`
(as in `_scat_crack.py`, where both use `xi2`) -/
theorem crack_LT_TL_reciprocity_phys (s : ℂ) (d : CrackData ℂ V) (h : CrackOK d)
    (f vL vT : ℝ) (hf : 0 < f) (hL : 0 < vL) (hT : 0 < vT) (g : ℂ)
    (haL : d.aL = -Complex.I * ((2 * Real.pi * f / vL : ℝ) : ℂ) * (Real.pi : ℂ)
      / ((2 * Real.pi * f / vT : ℝ) : ℂ) ^ 2)
    (haT : d.aT = -Complex.I * ((2 * Real.pi * f / vT : ℝ) : ℂ) * (Real.pi : ℂ)
      / ((2 * Real.pi * f / vT : ℝ) : ℂ) ^ 2)
    (hkLL : d.kLL = g * (((2 * Real.pi * f / vL) ^ ((5 : ℝ) / 2) / Real.sqrt (vL / f) : ℝ) : ℂ))
    (hkTT : d.kTT = g * (((2 * Real.pi * f / vT) ^ ((5 : ℝ) / 2) / Real.sqrt (vT / f) : ℝ) : ℂ))
    (a b : ℂ) :
    (vT : ℂ) ^ 2 * crackLT (tC s) d a b = -((vL : ℂ) ^ 2 * crackTL (tC s) d b a) := by
  apply crack_LT_TL_reciprocity_vel s d h
  have e := congrArg ((↑) : ℝ → ℂ)
    (crack_prefactors (2 * Real.pi * f) f vL vT (by positivity) hL hT)
  simp only [Complex.ofReal_mul, Complex.ofReal_pow] at e
  rw [haL, haT, hkLL, hkTT]
  -- `e` is `crack_prefactors` in `ℂ`: `k_T ξ_L v_T² = k_L ξ_T v_L²` for the prefactors without `g` (`ξ = 2πf / v`); the two
  -- sides of the goal are `g · (−i) · π / ξ₂²` times those of `e`
  linear_combination (g * -Complex.I * (Real.pi : ℂ) / ((2 * Real.pi * f / vT : ℝ) : ℂ) ^ 2) * e

/-- if the load vectors `bL`, `bT` are `2π`-periodic functions of the angle then the four crack
functions are `2π`-periodic in each angle separately (no hypothesis on the forms) -/
theorem crack_periodic (s : ℂ) (d : CrackData ℂ V)
    (hbL : Function.Periodic d.bL (2 * (Real.pi : ℂ)))
    (hbT : Function.Periodic d.bT (2 * (Real.pi : ℂ))) (a b : ℂ) (k₁ k₂ : ℤ) :
    crackLL (tC s) d (a + 2 * (Real.pi : ℂ) * k₁) (b + 2 * (Real.pi : ℂ) * k₂) = crackLL (tC s) d a b ∧
    crackLT (tC s) d (a + 2 * (Real.pi : ℂ) * k₁) (b + 2 * (Real.pi : ℂ) * k₂) = crackLT (tC s) d a b ∧
    crackTL (tC s) d (a + 2 * (Real.pi : ℂ) * k₁) (b + 2 * (Real.pi : ℂ) * k₂) = crackTL (tC s) d a b ∧
    crackTT (tC s) d (a + 2 * (Real.pi : ℂ) * k₁) (b + 2 * (Real.pi : ℂ) * k₂) = crackTT (tC s) d a b := by
  have e (x : ℂ) (k : ℤ) : x + 2 * (Real.pi : ℂ) * k = x + (k : ℂ) * (2 * (Real.pi : ℂ)) := by ring
  have hL (x : ℂ) (k : ℤ) : d.bL (x + (k : ℂ) * (2 * (Real.pi : ℂ))) = d.bL x := hbL.int_mul k x
  have hT (x : ℂ) (k : ℤ) : d.bT (x + (k : ℂ) * (2 * (Real.pi : ℂ))) = d.bT x := hbT.int_mul k x
  simp only [crackLL, crackLT, crackTL, crackTT, tC_sin, tC_cos, e, hL, hT,
    Complex.sin_add_int_mul_two_pi, Complex.cos_add_int_mul_two_pi, and_self]

/-- in particular when `bL`, `bT` depend on the angle through its sine only, as in
`crack_2d_scat`: `b(φ) = basis(−k h s₀) · exp(i k x s₀)`, `s₀ = −sin φ` -/
theorem crack_periodic_of_sin (s : ℂ) (d : CrackData ℂ V) (gL gT : ℂ → V)
    (hbL : ∀ φ, d.bL φ = gL (Complex.sin φ)) (hbT : ∀ φ, d.bT φ = gT (Complex.sin φ))
    (a b : ℂ) (k₁ k₂ : ℤ) :
    crackLL (tC s) d (a + 2 * (Real.pi : ℂ) * k₁) (b + 2 * (Real.pi : ℂ) * k₂) = crackLL (tC s) d a b ∧
    crackLT (tC s) d (a + 2 * (Real.pi : ℂ) * k₁) (b + 2 * (Real.pi : ℂ) * k₂) = crackLT (tC s) d a b ∧
    crackTL (tC s) d (a + 2 * (Real.pi : ℂ) * k₁) (b + 2 * (Real.pi : ℂ) * k₂) = crackTL (tC s) d a b ∧
    crackTT (tC s) d (a + 2 * (Real.pi : ℂ) * k₁) (b + 2 * (Real.pi : ℂ) * k₂) = crackTT (tC s) d a b :=
  crack_periodic s d (fun φ => by rw [hbL, hbL, Complex.sin_periodic φ])
    (fun φ => by rw [hbT, hbT, Complex.sin_periodic φ]) a b k₁ k₂

example (s φ c0 c1 : ℂ) :
    modalSum (tC s) Complex.cos φ (fun n => if n = 0 then c0 else c1) 1
      = c0 + Complex.cos φ * c1 := by
  rw [modalSum_one (tC s) rfl Nat.cast_zero Nat.cast_one, Complex.cos_zero, one_mul]
  rfl

/-- `S_LL` is not identically zero: `maxn = 1`, `α = π`, `aLL = (1, 1)` give
`s (1 + cos(b − a + π)) = s (1 − cos(b − a))` -/
example (s a b : ℂ) :
    sdhLL (tC s) ⟨Real.pi, 1, 1, fun _ => 1, fun _ => 1, fun _ => 1⟩ a b
      = s * (1 - Complex.cos (b - a)) := by
  have hπ : (Real.pi : ℂ) ≠ 0 := Complex.ofReal_ne_zero.mpr Real.pi_ne_zero
  simp only [sdhLL, tC_cos, tC_pi, tC_sqrtI, modalSum_one (tC s) rfl Nat.cast_zero Nat.cast_one,
    Complex.cos_zero, Complex.cos_add_pi,
    div_mul_cancel₀ _ hπ, mul_one, ← sub_eq_add_neg]

/-- the hypotheses of `sdh_LT_TL_reciprocity` are satisfiable (`α = 1`, `β = 2`, `v_L = 2`,
`v_T = 1`) and `S_LT` is then not identically zero: with `maxn = 1`, `x = (1, 1)` and `s = π`,
`S_LT(0, −π/2) = 2 · sin(π/2) · 2/π = 4/π` -/
example : sdhLT (tC Real.pi) ⟨1, 2, 1, fun _ => 1, fun _ => 1, fun _ => 1⟩ 0 (-(Real.pi / 2 : ℂ))
    = 4 / Real.pi := by
  have hπ : (Real.pi : ℂ) ≠ 0 := Complex.ofReal_ne_zero.mpr Real.pi_ne_zero
  simp only [sdhLT, tC_sin, tC_pi, tC_sqrtI, tC_ofNat,
    modalSum_one (tC _) rfl Nat.cast_zero Nat.cast_one, Complex.sin_zero, sub_zero,
    Complex.sin_add_pi, Complex.sin_neg, Complex.sin_pi_div_two, neg_neg, div_self hπ, zero_mul,
    zero_add, one_mul, mul_one, Nat.cast_one]
  ring

/-- a one-dimensional crack datum (`V = ℂ`) with `λ = μ (1/ξ² − 2)` -/
noncomputable def crackEx : CrackData ℂ ℂ :=
  { qx := fun u v => u * v, qz := fun u v => 2 * u * v,
    bL := fun φ => 1 + Complex.sin φ, bT := fun φ => 2 - Complex.sin φ,
    smulV := fun c u => c * u, xi := 1 / 2, lam := 2, mu := 1, aL := 3, aT := 5, kLL := 7, kTT := 11,
    one := 1, two := 2 }

/-- the hypotheses `CrackOK` are satisfiable -/
theorem crackEx_ok : CrackOK crackEx where
  qx_symm u v := by simp only [crackEx]; ring
  qz_symm u v := by simp only [crackEx]; ring
  qx_smul c u v := by simp only [crackEx]; ring
  qz_smul c u v := by simp only [crackEx]; ring
  one_eq := rfl
  two_eq := rfl
  lam_eq := by simp only [crackEx]; norm_num

/-- … together with the periodicity hypotheses of `crack_periodic` -/
example : Function.Periodic crackEx.bL (2 * (Real.pi : ℂ)) ∧
    Function.Periodic crackEx.bT (2 * (Real.pi : ℂ)) :=
  ⟨fun φ => by simp only [crackEx, Complex.sin_periodic φ],
   fun φ => by simp only [crackEx, Complex.sin_periodic φ]⟩

/-- … and the crack functions of this datum are not identically zero:
`S_LL(π/2, π/2) = kLL a_L μ · (−(1/ξ² − 2)² · qz(2, 2)) = 7 · 3 · (−4 · 8) = −672` -/
example (s : ℂ) : crackLL (tC s) crackEx (Real.pi / 2) (Real.pi / 2) = -672 := by
  rw [crackLL_eq s crackEx crackEx_ok]
  simp only [crackKer, wL, crackEx, Complex.sin_pi_div_two, Complex.cos_pi_div_two]
  norm_num

end Arim.C09
