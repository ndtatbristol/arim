import ArimModel.Das
import ArimProofs.Tie.C02
import ArimProofs.Lemmas.Das
import Mathlib.Data.Rat.Floor
import Mathlib.Tactic.NormNum.Basic
import Mathlib.Analysis.InnerProductSpace.Basic
import Mathlib.Analysis.Complex.Basic
/-! # C02 — delay-and-sum image equals its mathematical definition

Optimality certificates for the robust aggregations (geometric median, Huber location) in a real inner-product
space; the dispatcher table; the interpolation kernels and the mean image, first for samples in an algebra over the
time scalars (`algData`), then for samples in the scalar field itself (`stdData`, the case `V = K`); the same
statements about the kernels as translated from the source; rational test vectors. -/
namespace Arim.C02
open Arim.Das
open scoped RealInnerProductSpace

variable {E : Type*} [NormedAddCommGroup E] [InnerProductSpace ℝ E]

/-- subgradient inequality for the norm -/
theorem norm_sub_ge (z w d : E) (hz : z ≠ d) :
    ‖z - d‖ + ⟪(‖z - d‖⁻¹) • (z - d), w - z⟫ ≤ ‖w - d‖ := by
  have hne : ‖z - d‖ ≠ 0 := norm_ne_zero_iff.2 (sub_ne_zero.2 hz)
  -- `u = (z - d)/‖z - d‖` is a unit vector with `⟪u, z - d⟫ = ‖z - d‖`
  have h1 : ⟪(‖z - d‖⁻¹) • (z - d), w - d⟫ ≤ ‖w - d‖ :=
    (real_inner_le_norm _ _).trans_eq (by rw [norm_smul, norm_inv, norm_norm, inv_mul_cancel₀ hne, one_mul])
  have h2 : ⟪(‖z - d‖⁻¹) • (z - d), z - d⟫ = ‖z - d‖ := by
    rw [real_inner_smul_left, real_inner_self_eq_norm_sq, sq, ← mul_assoc, inv_mul_cancel₀ hne, one_mul]
  rw [← sub_sub_sub_cancel_right w z d, inner_sub_right, h2]
  linarith

/-- Certificate from subgradients `g i` of the `f i` at `z`: Cauchy–Schwarz on the summed inequalities. -/
theorem sum_le_of_subgradients {ι : Type*} (s : Finset ι) (f : ι → E → ℝ) (g : ι → E) (z w : E) (ε : ℝ)
    (hsub : ∀ i ∈ s, f i z + ⟪g i, w - z⟫ ≤ f i w) (hgrad : ‖∑ i ∈ s, g i‖ ≤ ε) :
    ∑ i ∈ s, f i z ≤ ∑ i ∈ s, f i w + ε * ‖w - z‖ := by
  have hsum := Finset.sum_le_sum hsub
  rw [Finset.sum_add_distrib, ← sum_inner] at hsum
  have hcs := (neg_le_of_abs_le (abs_real_inner_le_norm (∑ i ∈ s, g i) (w - z)))
  have := mul_le_mul_of_nonneg_right hgrad (norm_nonneg (w - z))
  linarith

/-- Geometric median certificate. If the sum of the unit vectors from the data to `z` has norm at most `ε` (what the
Newton iteration of `geomed` drives to zero), then `z` minimises the sum of distances up to `ε‖w − z‖`: for `ε = 0` it
is the geometric median of the delayed samples. Any real inner-product space (ℂ ≅ ℝ² for the complex samples). -/
theorem geomed_optimal {ι : Type*} (s : Finset ι) (d : ι → E) (z w : E) (ε : ℝ)
    (hz : ∀ i ∈ s, z ≠ d i)
    (hgrad : ‖∑ i ∈ s, (‖z - d i‖⁻¹) • (z - d i)‖ ≤ ε) :
    ∑ i ∈ s, ‖z - d i‖ ≤ ∑ i ∈ s, ‖w - d i‖ + ε * ‖w - z‖ :=
  sum_le_of_subgradients s (fun i u => ‖u - d i‖) _ z w ε (fun i hi => norm_sub_ge z w (d i) (hz i hi)) hgrad

/-! ### Huber location (aggregation `("huber", τ)`, `arim.im.huber`)

`_huber_iter` replaces the iterate `z` by the weighted mean of the samples with weights `w_i = min(1, τ/‖z − d_i‖)`;
`huber_m_estimate` iterates until the update is below `xtol`. -/

/-- Huber's loss of a distance `r` -/
noncomputable def huberRho (τ r : ℝ) : ℝ := if r ≤ τ then r ^ 2 / 2 else τ * r - τ ^ 2 / 2

/-- the weight of `_huber_iter`: `min(1, τ / r)` -/
noncomputable def huberW (τ r : ℝ) : ℝ := min 1 (τ / r)

/-- `ψ(u) = w(‖u‖) · u`, the gradient of `u ↦ ρ_τ(‖u‖)` -/
noncomputable def huberPsi (τ : ℝ) (u : E) : E := huberW τ ‖u‖ • u

theorem huberPsi_small (τ : ℝ) (u : E) (h : ‖u‖ ≤ τ) : huberPsi τ u = u := by
  unfold huberPsi huberW
  rcases eq_or_ne u 0 with rfl | hu
  · simp
  · have hpos : 0 < ‖u‖ := norm_pos_iff.mpr hu
    rw [min_eq_left ((one_le_div hpos).mpr h), one_smul]

theorem huberPsi_large (τ : ℝ) (u : E) (h : τ < ‖u‖) (hτ : 0 ≤ τ) : huberPsi τ u = (τ / ‖u‖) • u := by
  unfold huberPsi huberW
  have hpos : 0 < ‖u‖ := lt_of_le_of_lt hτ h
  rw [min_eq_right ((div_le_one hpos).mpr h.le)]

theorem huberRho_eq_min (τ r : ℝ) : huberRho τ r = min r τ * r - min r τ ^ 2 / 2 := by
  unfold huberRho
  split_ifs with h
  · rw [min_eq_left h]; ring
  · rw [min_eq_right (not_le.1 h).le]

/-- `ρ_τ` is the upper envelope of the parabolas' tangents with slope at most `τ` -/
theorem huberRho_ge (τ a r : ℝ) (ha : a ≤ τ) : a * r - a ^ 2 / 2 ≤ huberRho τ r := by
  unfold huberRho
  split_ifs with h
  · linarith [sq_nonneg (r - a)]
  · linarith [mul_nonneg (sub_nonneg.2 ha) (sub_nonneg.2 (not_le.1 h).le), sq_nonneg (τ - a)]

theorem huberW_mul (τ r : ℝ) (hτ : 0 ≤ τ) (hr : 0 ≤ r) : huberW τ r * r = min r τ := by
  unfold huberW
  rcases hr.eq_or_lt with rfl | hr
  · rw [mul_zero, min_eq_left hτ]
  · rw [min_mul_of_nonneg _ _ hr.le, one_mul, div_mul_cancel₀ _ hr.ne']

/-- subgradient inequality of Huber's loss (by convexity, no calculus) -/
theorem huber_subgradient (τ : ℝ) (hτ : 0 ≤ τ) (u v : E) :
    huberRho τ ‖u‖ + ⟪huberPsi τ u, v - u⟫ ≤ huberRho τ ‖v‖ := by
  have hw : 0 ≤ huberW τ ‖u‖ := le_min zero_le_one (div_nonneg hτ (norm_nonneg u))
  have hm := huberW_mul τ ‖u‖ hτ (norm_nonneg u)
  -- `ψ(u)` has norm `m = min ‖u‖ τ` (Cauchy–Schwarz for `⟪ψ(u), v⟫`), and `ρ_τ` lies above its tangent of slope `m`
  have hn : ‖huberPsi τ u‖ = min ‖u‖ τ := by
    rw [huberPsi, norm_smul, Real.norm_of_nonneg hw, hm]
  have hu : ⟪huberPsi τ u, u⟫ = min ‖u‖ τ * ‖u‖ := by
    rw [huberPsi, real_inner_smul_left, real_inner_self_eq_norm_sq, ← hm]; ring
  have hv : ⟪huberPsi τ u, v⟫ ≤ min ‖u‖ τ * ‖v‖ := hn ▸ real_inner_le_norm _ v
  have := huberRho_ge τ (min ‖u‖ τ) ‖v‖ (min_le_right _ _)
  rw [inner_sub_right, hu, huberRho_eq_min τ ‖u‖]
  linarith

/-- Huber location certificate. If the sum of the `ψ`-scores at `z` has norm at most `ε` (a fixed point of
`_huber_iter` has `ε = 0`, `huber_fixed_point_iff`), then `z` minimises the Huber objective `Σ ρ_τ(‖· − d_i‖)` up to
`ε‖w − z‖`: the value returned is the Huber location of the delayed samples. -/
theorem huber_optimal {ι : Type*} (s : Finset ι) (d : ι → E) (τ : ℝ) (hτ : 0 ≤ τ) (z w : E) (ε : ℝ)
    (hgrad : ‖∑ i ∈ s, huberPsi τ (z - d i)‖ ≤ ε) :
    ∑ i ∈ s, huberRho τ ‖z - d i‖ ≤ ∑ i ∈ s, huberRho τ ‖w - d i‖ + ε * ‖w - z‖ := by
  refine sum_le_of_subgradients s (fun i u => huberRho τ ‖u - d i‖) _ z w ε (fun i _ => ?_) hgrad
  have := huber_subgradient τ hτ (z - d i) (w - d i)
  rwa [sub_sub_sub_cancel_right] at this

/-- one step of `_huber_iter` from the iterate `z`: the weighted mean of the samples -/
noncomputable def huberIter {ι : Type*} (s : Finset ι) (d : ι → E) (τ : ℝ) (z : E) : E :=
  (∑ i ∈ s, huberW τ ‖z - d i‖)⁻¹ • ∑ i ∈ s, huberW τ ‖z - d i‖ • d i

theorem sum_smul_sub_eq {ι : Type*} (s : Finset ι) (c : ι → ℝ) (d : ι → E) (z : E) (hW : ∑ i ∈ s, c i ≠ 0) :
    ∑ i ∈ s, c i • (z - d i) = (∑ i ∈ s, c i) • (z - (∑ i ∈ s, c i)⁻¹ • ∑ i ∈ s, c i • d i) := by
  rw [smul_sub, smul_smul, mul_inv_cancel₀ hW, one_smul, Finset.sum_smul, ← Finset.sum_sub_distrib]
  exact Finset.sum_congr rfl fun i _ => smul_sub _ _ _

theorem huber_score_eq_step {ι : Type*} (s : Finset ι) (d : ι → E) (τ : ℝ) (z : E)
    (hW : ∑ i ∈ s, huberW τ ‖z - d i‖ ≠ 0) :
    ∑ i ∈ s, huberPsi τ (z - d i) = (∑ i ∈ s, huberW τ ‖z - d i‖) • (z - huberIter s d τ z) :=
  sum_smul_sub_eq s _ d z hW

theorem huber_fixed_point_iff {ι : Type*} (s : Finset ι) (d : ι → E) (τ : ℝ) (z : E)
    (hW : ∑ i ∈ s, huberW τ ‖z - d i‖ ≠ 0) :
    huberIter s d τ z = z ↔ ∑ i ∈ s, huberPsi τ (z - d i) = 0 := by
  rw [huber_score_eq_step s d τ z hW, smul_eq_zero, or_iff_right hW, sub_eq_zero, eq_comm]

theorem huber_fixed_point_optimal {ι : Type*} (s : Finset ι) (d : ι → E) (τ : ℝ) (hτ : 0 ≤ τ) (z w : E)
    (hW : ∑ i ∈ s, huberW τ ‖z - d i‖ ≠ 0) (hfix : huberIter s d τ z = z) :
    ∑ i ∈ s, huberRho τ ‖z - d i‖ ≤ ∑ i ∈ s, huberRho τ ‖w - d i‖ := by
  have h0 := (huber_fixed_point_iff s d τ z hW).mp hfix
  have := huber_optimal s d τ hτ z w 0 (by rw [h0, norm_zero])
  simpa using this

/-- Certificate for what an iteration stopped by a tolerance returns: `δ` bounds the move of one more reweighting step
(the check's oracle measures exactly this `δ`); the factor `|Σ_i w_i|` is the sum of the weights, at most the number of
samples. -/
theorem huber_near_fixed_point_optimal {ι : Type*} (s : Finset ι) (d : ι → E) (τ : ℝ) (hτ : 0 ≤ τ) (z w : E) (δ : ℝ)
    (hW : ∑ i ∈ s, huberW τ ‖z - d i‖ ≠ 0) (hstep : ‖z - huberIter s d τ z‖ ≤ δ) :
    ∑ i ∈ s, huberRho τ ‖z - d i‖ ≤ ∑ i ∈ s, huberRho τ ‖w - d i‖ + |∑ i ∈ s, huberW τ ‖z - d i‖| * δ * ‖w - z‖ := by
  refine huber_optimal s d τ hτ z w _ ?_
  rw [huber_score_eq_step s d τ z hW, norm_smul, Real.norm_eq_abs]
  exact mul_le_mul_of_nonneg_left hstep (abs_nonneg _)

/-- Dispatcher table. With per-element amplitudes exactly mean × {nearest, linear} is
served; without amplitudes mean × {nearest, linear, Lanczos}, median × {nearest, Lanczos} and
Huber × Lanczos (the robust ones for complex128 data only); everything else is an error. -/
theorem dispatch_table (hasAmp : Bool) (agg : Agg) (it : Interp) (c128 : Bool) :
    (∃ k, dispatch hasAmp agg it c128 = .ok k) ↔
      (hasAmp = true ∧ agg = .mean ∧ (it = .nearest ∨ it = .linear)) ∨
      (hasAmp = false ∧ agg = .mean) ∨
      (hasAmp = false ∧ c128 = true ∧ agg = .median ∧ it ≠ .linear) ∨
      (hasAmp = false ∧ c128 = true ∧ agg = .huber ∧ ∃ a, it = .lanczos a) := by
  cases hasAmp <;> cases agg <;> cases it <;> cases c128 <;> simp [dispatch]

/-- the interpolator selected by `it` in the uniform-amplitude kernels -/
def interp {α β : Type} [Add α] [Sub α] [Mul α] [Div α] [LT α] [DecidableLT α]
    (ops : Ops α) (d : Data α β) (it : Interp) (n : Nat) (g : Nat → β) (loc : α) : Option β :=
  match it with
  | .nearest => interpNearest ops n g loc
  | .linear => interpLinearB ops d n g loc
  | .lanczos a => interpLanczos ops d a n g loc

/-- the same function as `Tfm.interpOf`, about which the lemmas are proved -/
theorem interp_eq_interpOf {α β : Type} [Add α] [Sub α] [Mul α] [Div α] [LT α] [DecidableLT α]
    (ops : Ops α) (d : Data α β) (it : Interp) (n : Nat) (g : Nat → β) (loc : α) :
    interp ops d it n g loc = Tfm.interpOf ops d it n g loc := rfl

theorem termNoAmp_eq_interp {α β : Type} [Add α] [Sub α] [Mul α] [Div α] [LT α] [DecidableLT α]
    (ops : Ops α) (d : Data α β) (p : Problem α β) (it : Interp) (pt k : Nat) :
    termNoAmp ops d p it pt k = interp ops d it p.n (p.g k) (locB ops p pt k) :=
  Tfm.termNoAmp_eq_interpOf ops d p it pt k

/-! ## Samples in an algebra over the time scalars (complex samples, real times)

The general case: samples in the scalar field itself (`stdData`, next section) are the case `V = K`. -/
section Alg
variable {K V : Type} [Field K] [LinearOrder K] [FloorRing K]
  [Ring V] [Algebra K V]

/-- linear interpolation of algebra-valued samples: the window and the formula of `linear_spec` -/
theorem linear_spec_alg (sinc : K → K) (n : Nat) (g : Nat → V) (loc : K) (v : V) :
    interpLinearA (stdOps sinc) algData n g loc = some v ↔
      ∃ i : Nat, (i : K) ≤ loc ∧ loc < (i : K) + 1 ∧ i + 1 < n ∧
        v = g i + (loc - (i : K)) • (g (i + 1) - g i) := by
  simp only [interpLinearA_eq_some_iff, stdOps_floor, floor_eq_natCast_iff, and_assoc, stdOps_ofInt,
    Int.cast_natCast, algData_add, algData_smul, algData_sub]

theorem linear_none_iff_alg [IsStrictOrderedRing K] (sinc : K → K) (n : Nat) (g : Nat → V) (loc : K) :
    interpLinearA (stdOps sinc) algData n g loc = none ↔ loc < 0 ∨ (n : K) ≤ loc + 1 :=
  interpLinearA_stdOps_eq_none_iff sinc algData n g loc

theorem lanczos_node_alg [IsStrictOrderedRing K] (sinc : K → K) (h0 : sinc 0 = 1)
    (hz : ∀ z : Int, z ≠ 0 → sinc (z : K) = 0) (a n : Nat) (ha : 1 ≤ a) (g : Nat → V) (loc : K) (i : Nat)
    (hloc : loc = (i : K)) (hi : i < n) :
    interpLanczos (stdOps sinc) algData a n g loc = some (g i) := by
  subst hloc
  simp only [interpLanczos_algData, stdOps_ofInt, stdOps_sinc, stdOps_floor, Int.cast_zero, Int.cast_natCast,
    Int.floor_natCast]
  rw [if_neg (not_or.2 ⟨not_lt.2 (Nat.cast_nonneg i), not_not.2 (Nat.cast_lt.2 hi)⟩)]
  congr 1
  -- the `k`-th node of the window is `a - 1 - k` away: only `k = a - 1` contributes
  rw [Finset.sum_eq_single (a - 1)]
  · rw [show (i : Int) - a + 1 + ((a - 1 : Nat) : Int) = i by omega, Int.cast_natCast, sub_self, zero_div, h0,
      one_mul, one_smul, Int.emod_eq_of_lt (by omega) (by omega), Int.toNat_natCast]
  · intro k _ hk
    rw [← Int.cast_natCast (R := K) i, ← Int.cast_sub, hz _ (by omega), zero_mul, zero_smul]
  · intro h
    exact absurd (Finset.mem_range.2 (by omega)) h

theorem das_amp_one_alg (sinc : K → K) (p : Problem K V) (it : Interp)
    (hit : it = .nearest ∨ it = .linear) (fill : V) (pt : Nat) :
    dasAmp (stdOps sinc) algData p (fun _ _ => 1) (fun _ _ => 1) it fill pt =
      dasNoAmp (stdOps sinc) algData p it fill pt := by
  unfold dasAmp dasNoAmp
  rw [funext (termAmp_one _ (stdOps_ofInt_one sinc) p it hit pt)]

/-- `das_definition` for algebra-valued samples (complex data, real weights and times) -/
theorem das_definition_alg (sinc : K → K) (p : Problem K V) (w : Nat → K) (g0 : Nat → Nat → V)
    (it : Interp) (fill : V) (pt : Nat) :
    dasNoAmp (stdOps sinc) algData { p with g := weigh algData (some w) g0 } it fill pt =
      ((p.N : K))⁻¹ • ∑ k ∈ Finset.range p.N,
        match interp (stdOps sinc) algData it p.n (g0 k) (locA p pt k) with
        | some v => w k • v
        | none => fill := by
  unfold dasNoAmp
  rw [dasMean_algData]
  congr 1
  refine Finset.sum_congr rfl (fun k _ => ?_)
  rw [termNoAmp_weigh algData_isHom_smul, termNoAmp_eq_interp, locB_eq_locA _ (stdOps_ofInt_one sinc)]
  show ((interp (stdOps sinc) algData it p.n (g0 k) (locA p pt k)).map _).getD fill = _
  cases interp (stdOps sinc) algData it p.n (g0 k) (locA p pt k) <;> rfl

end Alg

section Das
variable {K : Type} [Field K] [LinearOrder K] [FloorRing K]

omit [LinearOrder K] [FloorRing K] in
/-- The accumulation loop is the mean: `dasMean` (a left fold over the timetraces followed
by a division) is `(1/N)·Σ_k (term_k or fill)`, for every number of timetraces. -/
theorem dasMean_eq_sum (fill : K) (N : Nat) (term : Nat → Option K) :
    dasMean stdData fill N term = (∑ k ∈ Finset.range N, (term k).getD fill) / (N : K) :=
  dasMean_stdData fill N term

omit [LinearOrder K] [FloorRing K] in
/-- the mean kernel is the arithmetic mean of exactly the delayed samples that the robust
aggregations (median, Huber) receive -/
theorem dasMean_eq_delayedSamples (fill : K) (N : Nat) (term : Nat → Option K) :
    dasMean stdData fill N term = (delayedSamples fill N term).sum / (N : K) :=
  dasMean_eq_sum fill N term

/-- `round`: within one half of the argument, ties to the even neighbour. Together these
determine the value (`Arim.Das.roundHalfEven_eq_iff`), and it is a nearest integer
(`Arim.Das.roundHalfEven_nearest`). -/
theorem roundHalfEven_spec [IsStrictOrderedRing K] (x : K) :
    |x - (roundHalfEven x : K)| ≤ 1 / 2 ∧
      (|x - (roundHalfEven x : K)| = 1 / 2 → roundHalfEven x % 2 = 0) :=
  ⟨roundHalfEven_abs_le x, roundHalfEven_tie_even x⟩

/-- nearest-neighbour lookup: in-window iff the round-half-even index is in `[0, n)` -/
theorem nearest_spec {β : Type} (sinc : K → K) (n : Nat) (g : Nat → β) (loc : K) (v : β) :
    interpNearest (stdOps sinc) n g loc = some v ↔
      ∃ i : Nat, i < n ∧ roundHalfEven loc = (i : Int) ∧ v = g i :=
  interpNearest_eq_some_iff (stdOps sinc) n g loc v

theorem nearest_none {β : Type} (sinc : K → K) (n : Nat) (g : Nat → β) (loc : K) :
    interpNearest (stdOps sinc) n g loc = none ↔
      roundHalfEven loc < 0 ∨ (n : Int) ≤ roundHalfEven loc :=
  interpNearest_eq_none_iff (stdOps sinc) n g loc

/-- Linear interpolation: in-window iff `i ≤ loc < i+1` for a sample index `i` with
`i + 1 < n`, and then the value is `g i + (loc - i)·(g (i+1) - g i)`. -/
theorem linear_spec (sinc : K → K) (n : Nat) (g : Nat → K) (loc v : K) :
    interpLinearA (stdOps sinc) stdData n g loc = some v ↔
      ∃ i : Nat, (i : K) ≤ loc ∧ loc < (i : K) + 1 ∧ i + 1 < n ∧
        v = g i + (loc - (i : K)) * (g (i + 1) - g i) := by
  rw [stdData_eq_algData]; exact linear_spec_alg sinc n g loc v

/-- `none` iff before the window or the right neighbour is missing -/
theorem linear_none_iff [IsStrictOrderedRing K] (sinc : K → K) (n : Nat) (g : Nat → K) (loc : K) :
    interpLinearA (stdOps sinc) stdData n g loc = none ↔ loc < 0 ∨ (n : K) ≤ loc + 1 :=
  interpLinearA_stdOps_eq_none_iff sinc stdData n g loc

/-- linear interpolation reproduces the sample at a node -/
theorem linear_node [IsStrictOrderedRing K] (sinc : K → K) (n : Nat) (g : Nat → K) (loc : K) (i : Nat)
    (hloc : loc = (i : K)) (hn : i + 1 < n) :
    interpLinearA (stdOps sinc) stdData n g loc = some (g i) :=
  (linear_spec sinc n g loc _).2
    ⟨i, hloc.ge, hloc ▸ lt_add_one _, hn, by rw [hloc, sub_self, zero_mul, add_zero]⟩

/-- between two nodes the value is a convex combination of the neighbouring samples -/
theorem linear_between [IsStrictOrderedRing K] (sinc : K → K) (n : Nat) (g : Nat → K) (loc : K) (i : Nat)
    (h0 : (i : K) ≤ loc) (h1 : loc < (i : K) + 1) (hn : i + 1 < n) :
    ∃ v, interpLinearA (stdOps sinc) stdData n g loc = some v ∧
      v = (1 - (loc - (i : K))) * g i + (loc - (i : K)) * g (i + 1) ∧
      0 ≤ loc - (i : K) ∧ loc - (i : K) < 1 ∧
      min (g i) (g (i + 1)) ≤ v ∧ v ≤ max (g i) (g (i + 1)) := by
  have ht0 : 0 ≤ loc - (i : K) := sub_nonneg.2 h0
  have ht1 : loc - (i : K) < 1 := sub_lt_iff_lt_add'.2 h1
  have hv : g i + (loc - (i : K)) * (g (i + 1) - g i) =
      (1 - (loc - (i : K))) * g i + (loc - (i : K)) * g (i + 1) := by ring
  refine ⟨_, (linear_spec sinc n g loc _).mpr ⟨i, h0, h1, hn, rfl⟩, hv, ht0, ht1, ?_⟩
  rw [hv]
  exact segment_subset_uIcc (𝕜 := K) _ _ ⟨_, _, sub_nonneg.2 ht1.le, ht0, sub_add_cancel 1 _, rfl⟩

/-- the two ways the kernels write the linear interpolation agree -/
theorem linearA_eq_linearB (sinc : K → K) (n : Nat) (g : Nat → K) (loc : K) :
    interpLinearA (stdOps sinc) stdData n g loc = interpLinearB (stdOps sinc) stdData n g loc := by
  rw [stdData_eq_algData]; exact interpLinearA_eq_interpLinearB _ (stdOps_ofInt_one sinc) n g loc

/-! ### truncation toward zero is *not* a model of the kernel -/

/-- `interpLinearA` with the sample index computed by truncation toward zero (what `int(loc)`
does) instead of `floor`. -/
def interpLinearTrunc {α β : Type} [Sub α] [Neg α] [LT α] [DecidableLT α]
    (ops : Ops α) (d : Data α β) (n : Nat) (g : Nat → β) (loc : α) : Option β :=
  let i := if loc < ops.ofInt 0 then - ops.floor (-loc) else ops.floor loc
  let frac := loc - ops.ofInt i
  if i < 0 ∨ i + 1 ≥ (n : Int) then none
  else some (d.add (g i.toNat) (d.smul frac (d.sub (g (i + 1).toNat) (g i.toNat))))

theorem interpLinearTrunc_of_index {α β : Type} [Sub α] [Neg α] [LT α] [DecidableLT α]
    (ops : Ops α) (d : Data α β) (n : Nat) (g : Nat → β) (loc : α) (i : Int)
    (hi : (if loc < ops.ofInt 0 then - ops.floor (-loc) else ops.floor loc) = i) :
    interpLinearTrunc ops d n g loc =
      if i < 0 ∨ i + 1 ≥ (n : Int) then none
      else some (d.add (g i.toNat) (d.smul (loc - ops.ofInt i) (d.sub (g (i + 1).toNat) (g i.toNat)))) := by
  subst hi; rfl

/-- for `0 ≤ loc` truncation and floor agree -/
theorem linear_trunc_eq_of_nonneg (sinc : K → K) (n : Nat) (g : Nat → K) (loc : K)
    (h : 0 ≤ loc) :
    interpLinearTrunc (stdOps sinc) stdData n g loc =
      interpLinearA (stdOps sinc) stdData n g loc :=
  interpLinearTrunc_of_index _ _ n g loc _ (if_neg (by rw [stdOps_ofInt, Int.cast_zero]; exact not_lt.2 h))

/-- The truncating variant extrapolates before the window: for `-1 < loc < 0` it returns
`g 0 + loc·(g 1 - g 0)` where the kernel (and the specification) return the fill value. -/
theorem linear_trunc_extrapolates [IsStrictOrderedRing K] (sinc : K → K) (n : Nat) (g : Nat → K) (loc : K)
    (h0 : -1 < loc) (h1 : loc < 0) (hn : 1 < n) :
    interpLinearTrunc (stdOps sinc) stdData n g loc = some (g 0 + loc * (g 1 - g 0)) ∧
      interpLinearA (stdOps sinc) stdData n g loc = none := by
  refine ⟨?_, interpLinearA_none_of_neg sinc _ n g loc h1⟩
  have hf : ⌊-loc⌋ = 0 := by
    rw [Int.floor_eq_iff, Int.cast_zero, zero_add]; exact ⟨neg_nonneg.2 h1.le, neg_lt.1 h0⟩
  rw [interpLinearTrunc_of_index _ _ n g loc 0
    ((if_pos (by rwa [stdOps_ofInt, Int.cast_zero])).trans (by rw [stdOps_floor, hf, neg_zero])),
    if_neg (by omega)]
  simp

/-- the concrete witness over `ℚ`: four samples, lookup at `-1/4` -/
theorem linear_trunc_counter (sinc : ℚ → ℚ) (g : Nat → ℚ) :
    interpLinearTrunc (stdOps sinc) stdData 4 g (-(1 / 4) : ℚ) =
      some (g 0 + (-(1 / 4)) * (g 1 - g 0)) :=
  (linear_trunc_extrapolates sinc 4 g (-(1 / 4)) (by norm_num) (by norm_num) (by norm_num)).1

theorem lanczos_none_iff (sinc : K → K) (a n : Nat) (g : Nat → K) (loc : K) :
    interpLanczos (stdOps sinc) stdData a n g loc = none ↔ loc < 0 ∨ (n : K) ≤ loc := by
  rw [interpLanczos_eq_none_iff, stdOps_ofInt, stdOps_ofInt, Int.cast_zero, Int.cast_natCast, not_lt]

/-- Lanczos interpolation reproduces the samples at integer locations, for any `sinc`
with `sinc 0 = 1` vanishing at the non-zero integers. -/
theorem lanczos_node [IsStrictOrderedRing K] (sinc : K → K) (h0 : sinc 0 = 1) (hz : ∀ z : Int, z ≠ 0 → sinc (z : K) = 0)
    (a n : Nat) (ha : 1 ≤ a) (g : Nat → K) (loc : K) (i : Nat) (hloc : loc = (i : K))
    (hi : i < n) :
    interpLanczos (stdOps sinc) stdData a n g loc = some (g i) := by
  rw [stdData_eq_algData]; exact lanczos_node_alg sinc h0 hz a n ha g loc i hloc hi

/-- Unit amplitudes: the amplitude kernels with all amplitudes `1` compute the same
image as the uniform-amplitude kernels (nearest and linear). No hypothesis on `dt` is needed. -/
theorem das_amp_one (sinc : K → K) (p : Problem K K) (it : Interp)
    (hit : it = .nearest ∨ it = .linear) (fill : K) (pt : Nat) :
    dasAmp (stdOps sinc) stdData p (fun _ _ => 1) (fun _ _ => 1) it fill pt =
      dasNoAmp (stdOps sinc) stdData p it fill pt := by
  rw [stdData_eq_algData]; exact das_amp_one_alg sinc p it hit fill pt

/-- with amplitudes the Lanczos terms are all `none` (the dispatcher refuses this case) -/
theorem das_amp_lanczos (sinc : K → K) (p : Problem K K) (ampTx ampRx : Nat → Nat → K) (a : Nat)
    (fill : K) (pt : Nat) :
    dasAmp (stdOps sinc) stdData p ampTx ampRx (.lanczos a) fill pt =
      (p.N : K) * fill / (p.N : K) := by
  unfold dasAmp
  rw [dasMean_eq_sum]
  simp [termAmp]

omit [LinearOrder K] [FloorRing K] in
theorem weigh_spec (w : Nat → K) (g : Nat → Nat → K) (k i : Nat) :
    weigh stdData (some w) g k i = w k * g k i := rfl

omit [LinearOrder K] [FloorRing K] in
theorem weigh_none (g : Nat → Nat → K) : weigh (stdData : Data K K) none g = g := rfl

/-- Delay-and-sum is its definition. With timetrace weights `w` applied by `weigh`, the
uniform-amplitude image value at `pt` is `(1/N)·Σ_k (w_k · g0_k(τ_k) or fill)` where
`τ_k = (ltTx pt tx_k + ltRx pt rx_k - t0)/dt` is the sample location (`locB_eq_locA`) and
`g0_k(τ)` the chosen interpolation of the unweighted timetrace (`nearest_spec`, `linear_spec`
with `linearA_eq_linearB`, `interpLanczos_algData`). -/
theorem das_definition (sinc : K → K) (p : Problem K K) (w : Nat → K) (g0 : Nat → Nat → K)
    (it : Interp) (fill : K) (pt : Nat) :
    dasNoAmp (stdOps sinc) stdData { p with g := weigh stdData (some w) g0 } it fill pt =
      (∑ k ∈ Finset.range p.N,
        match interp (stdOps sinc) stdData it p.n (g0 k) (locA p pt k) with
        | some v => w k * v
        | none => fill) / (p.N : K) := by
  rw [stdData_eq_algData, das_definition_alg, smul_eq_mul, ← div_eq_inv_mul]; rfl

/-- without weights -/
theorem das_definition_unweighted (sinc : K → K) (p : Problem K K) (it : Interp) (fill : K)
    (pt : Nat) :
    dasNoAmp (stdOps sinc) stdData p it fill pt =
      (∑ k ∈ Finset.range p.N,
        (interp (stdOps sinc) stdData it p.n (p.g k) (locA p pt k)).getD fill) / (p.N : K) := by
  simp only [dasNoAmp, dasMean_eq_sum, termNoAmp_eq_interp, locB_eq_locA _ (stdOps_ofInt_one sinc)]

/-! ### The same statements about the kernels as translated from the source on this run

`Src.das_*` (file `Generated/SrcC02.lean`) are the per-image-point translations of `_delay_and_sum_noamp`,
`_delay_and_sum_noamp_linear`, `_delay_and_sum_amplitudes_nearest`, `_delay_and_sum_amplitudes_linear`,
`_delay_and_sum_noamp_lanczos` (with the `lanczos_interpolation` and `sinc` it calls) made from
`/repo/src/arim/im/das.py` on every run; `Tie/C02.lean` identifies them with `dasNoAmp` / `dasAmp`. -/
open Arim.Tie.C02

/-- the translated nearest kernel is the definition: `(1/N) Σ_k g_k[round τ_k]` or the fill value -/
theorem src_das_definition_nearest (sinc : K → K) (wt : Nat → Nat → K) (tx rx : Nat → Nat) (ltx lrx : Nat → Nat → K)
    (dt t0 fill : K) (N n pt : Nat) :
    Src.das_noamp_nearest (srcOps (stdOps sinc)) stdData wt tx rx ltx lrx ((stdOps sinc).ofInt 1 / dt) t0 fill N n pt =
      (∑ k ∈ Finset.range N,
        (interp (stdOps sinc) stdData .nearest n (wt k) ((ltx pt (tx k) + lrx pt (rx k) - t0) / dt)).getD fill) / (N : K) := by
  rw [tie_noamp_nearest, das_definition_unweighted]; rfl

theorem src_das_definition_linear (sinc : K → K) (wt : Nat → Nat → K) (tx rx : Nat → Nat) (ltx lrx : Nat → Nat → K)
    (dt t0 fill : K) (N n pt : Nat) :
    Src.das_noamp_linear (srcOps (stdOps sinc)) stdData wt tx rx ltx lrx ((stdOps sinc).ofInt 1 / dt) t0 fill N n pt =
      (∑ k ∈ Finset.range N,
        (interp (stdOps sinc) stdData .linear n (wt k) ((ltx pt (tx k) + lrx pt (rx k) - t0) / dt)).getD fill) / (N : K) := by
  rw [tie_noamp_linear, das_definition_unweighted]; rfl

/-- amplitudes identically one: the translated amplitude kernels give the uniform-amplitude image -/
theorem src_das_amp_one (sinc : K → K) (wt : Nat → Nat → K) (tx rx : Nat → Nat) (ltx lrx : Nat → Nat → K)
    (dt t0 fill : K) (N n pt : Nat) :
    Src.das_amplitudes_nearest (srcOps (stdOps sinc)) stdData wt tx rx ltx lrx (fun _ _ => 1) (fun _ _ => 1) dt t0 fill N n pt
        = Src.das_noamp_nearest (srcOps (stdOps sinc)) stdData wt tx rx ltx lrx ((stdOps sinc).ofInt 1 / dt) t0 fill N n pt
      ∧ Src.das_amplitudes_linear (srcOps (stdOps sinc)) stdData wt tx rx ltx lrx (fun _ _ => 1) (fun _ _ => 1) dt t0 fill N n pt
        = Src.das_noamp_linear (srcOps (stdOps sinc)) stdData wt tx rx ltx lrx ((stdOps sinc).ofInt 1 / dt) t0 fill N n pt := by
  rw [tie_amplitudes_nearest, tie_noamp_nearest, tie_amplitudes_linear, tie_noamp_linear]
  exact ⟨das_amp_one sinc _ .nearest (Or.inl rfl) fill pt, das_amp_one sinc _ .linear (Or.inr rfl) fill pt⟩

/-- the translated Lanczos kernel is the definition: `(1/N) Σ_k` of the Lanczos-windowed sum of timetrace `k` at
its lookup location (or the fill value outside `[0, n)`), where the window uses the kernels' own translated `sinc` -/
theorem src_das_definition_lanczos (sinc sin : K → K) (pi : K)
    (hs : ∀ x, sinc x = Src.das_sinc (srcOpsT (stdOps sinc) sin pi) x)
    (wt : Nat → Nat → K) (tx rx : Nat → Nat) (ltx lrx : Nat → Nat → K) (dt t0 fill : K) (a N n pt : Nat) :
    Src.das_noamp_lanczos (srcOpsT (stdOps sinc) sin pi) stdData wt tx rx ltx lrx ((stdOps sinc).ofInt 1 / dt) t0 fill a N n pt =
      (∑ k ∈ Finset.range N,
        (interp (stdOps sinc) stdData (.lanczos a) n (wt k) ((ltx pt (tx k) + lrx pt (rx k) - t0) / dt)).getD fill) / (N : K) := by
  rw [tie_noamp_lanczos (stdOps sinc) sin pi stdData hs (by intro s1 s2 v; simp only [stdData_smul]; ring),
    das_definition_unweighted]; rfl

/-- the translated `sinc` of the kernels is `1` at `0` and `sin(πx)/(πx)` elsewhere -/
theorem src_das_sinc_spec (o : Src.Ops K) (x : K) :
    Src.das_sinc o x = if x = o.ofNat 0 then o.ofNat 1 else o.sin (o.pi * x) / (o.pi * x) := rfl

/-- a lookup before the recorded window gives the fill value in the translated linear kernel (the clause the
truncating kernel of finding F6 broke): with a single timetrace and `loc < 0` the image value is `fill` -/
theorem src_linear_fill_before_window (sinc : K → K) (wt : Nat → Nat → K) (tx rx : Nat → Nat) (ltx lrx : Nat → Nat → K)
    (dt t0 fill : K) (n pt : Nat) (h : (ltx pt (tx 0) + lrx pt (rx 0) - t0) / dt < 0) :
    Src.das_noamp_linear (srcOps (stdOps sinc)) stdData wt tx rx ltx lrx ((stdOps sinc).ofInt 1 / dt) t0 fill 1 n pt = fill := by
  rw [src_das_definition_linear]
  simp only [Finset.range_one, Finset.sum_singleton, Nat.cast_one, div_one]
  exact congrArg (·.getD fill) (interpLinearB_none_of_neg sinc _ n (wt 0) _ h)

end Das

/-! ## Non-vacuity: concrete rational data -/
section Examples

/-- two timetraces of four samples, `dt = 1/2`, `t0 = 0`; at point 0 the round-trip time of
timetrace 0 is `3/4` (location `3/2`, inside) and of timetrace 1 is `-1/8` (location `-1/4`,
before the window) -/
def exProblem : Problem ℚ ℚ :=
  { N := 2, n := 4, tx := fun k => k, rx := fun k => k,
    g := fun k i => if k = 0 then (i : ℚ) + 1 else 10 * ((i : ℚ) + 1),
    ltTx := fun _ e => if e = 0 then 1 / 2 else -(1 / 4),
    ltRx := fun _ e => if e = 0 then 1 / 4 else 1 / 8,
    t0 := 0, dt := 1 / 2 }

example : locA exProblem 0 0 = 3 / 2 ∧ locA exProblem 0 1 = -(1 / 4) := by decide +kernel

/-- timetrace 0 contributes `g[1] + (1/2)(g[2]-g[1]) = 5/2`, timetrace 1 the fill value -/
example (sinc : ℚ → ℚ) :
    termNoAmp (stdOps sinc) stdData exProblem .linear 0 0 = some (5 / 2) ∧
      termNoAmp (stdOps sinc) stdData exProblem .linear 0 1 = none := by
  have h0 : locA exProblem 0 0 = 3 / 2 := by decide +kernel
  have h1 : locA exProblem 0 1 = -(1 / 4) := by decide +kernel
  constructor
  · show interpLinearB _ _ _ _ _ = _
    rw [← linearA_eq_linearB, locB_eq_locA _ (stdOps_ofInt_one sinc), h0, linear_spec]
    exact ⟨1, by norm_num, by norm_num, by decide, by decide +kernel⟩
  · show interpLinearB _ _ _ _ _ = _
    rw [locB_eq_locA _ (stdOps_ofInt_one sinc), h1]
    exact interpLinearB_none_of_neg _ _ _ _ _ (by norm_num)

example : dasNoAmp (stdOps (fun _ => 0)) stdData exProblem .linear 0 0 = 5 / 4 := by
  decide +kernel
example : dasNoAmp (stdOps (fun _ => 0)) stdData exProblem .linear 7 0 = 19 / 4 := by
  decide +kernel
/-- nearest: location `3/2` is a tie and goes to the even index 2 (`g 0 2 = 3`); location `-1/4`
rounds to index 0, inside the window (`g 1 0 = 10`) -/
example : dasNoAmp (stdOps (fun _ => 0)) stdData exProblem .nearest 0 0 = 13 / 2 := by
  decide +kernel
example : dasAmp (stdOps (fun _ => 0)) stdData exProblem (fun _ _ => 2) (fun _ _ => 3)
    .linear 0 0 = 15 / 2 := by decide +kernel
example : dasNoAmp (stdOps (fun _ => 0)) stdData
    { exProblem with g := weigh stdData (some fun k => if k = 0 then 2 else 5) exProblem.g }
    .linear 0 0 = 5 / 2 := by decide +kernel
example : (roundHalfEven (1 / 2 : ℚ), roundHalfEven (3 / 2 : ℚ), roundHalfEven (5 / 2 : ℚ),
    roundHalfEven (-(1 / 2) : ℚ), roundHalfEven (-(3 / 2) : ℚ), roundHalfEven (7 / 4 : ℚ)) =
    (0, 2, 2, 0, -2, 2) := by decide +kernel
/-- the truncating variant and the kernel differ on this problem's second timetrace -/
example (sinc : ℚ → ℚ) :
    interpLinearTrunc (stdOps sinc) stdData 4 (exProblem.g 1) (locA exProblem 0 1) =
      some (15 / 2) ∧
    interpLinearA (stdOps sinc) stdData 4 (exProblem.g 1) (locA exProblem 0 1) = none := by
  have h : locA exProblem 0 1 = -(1 / 4) := by decide +kernel
  rw [h]
  refine ⟨?_, interpLinearA_none_of_neg _ _ _ _ _ (by norm_num)⟩
  rw [linear_trunc_counter]
  congr 1
  decide +kernel
example : interpLanczos (stdOps (fun x : ℚ => if x = 0 then 1 else 0)) stdData 2 4
    (exProblem.g 0) 2 = some 3 := by decide +kernel

end Examples

/-! ## On the source: the kernels of the robust aggregations as translated from `arim/im/huber.py` and `arim/im/geomed.py` -/
section OnSourceRobust

/-- the routines of the translated robust kernels at `K = ℝ`; they call only `sqrt` and `ofNat` -/
noncomputable def robustOps : Src.Ops ℝ :=
  { sin := id, cos := id, asin := id, sqrt := Real.sqrt, exp := id, sinc := id,
    pi := 0, ofNat := fun n => (n : ℝ), ofInt := fun z => (z : ℝ),
    floor := fun x => ⌊x⌋, round := fun x => round x, trunc := fun x => ⌊x⌋ }

/-- row `i` of the `(n, 2)` array handed to `geomed` / `huber_m_estimate`, as the complex sample it is a view of -/
def smp (data : Nat → Nat → ℝ) (i : Nat) : ℂ := ⟨data i 0, data i 1⟩

theorem norm_smp_sub (data : Nat → Nat → ℝ) (x y : ℝ) (i : Nat) :
    ‖(⟨x, y⟩ : ℂ) - smp data i‖ = Real.sqrt ((x - data i 0) * (x - data i 0) + (y - data i 1) * (y - data i 1)) := by
  rw [Complex.norm_def, Complex.normSq_apply]; simp [smp]

theorem pyMin_eq_min (a b : ℝ) : Src.pyMin a b = min a b := by
  unfold Src.pyMin
  split_ifs with h
  · exact (min_eq_right h.le).symm
  · exact (min_eq_left (not_lt.mp h)).symm

/-- one step of `_huber_iter` as translated from the source is the reweighting step `huberIter` of the theorems,
on the complex samples the `(n, 2)` array is a view of -/
theorem src_huber_iter_eq (data : Nat → Nat → ℝ) (n : Nat) (τ x0 y0 : ℝ) :
    Src.huber_iter robustOps data n τ x0 y0 =
      ((huberIter (Finset.range n) (smp data) τ (⟨x0, y0⟩ : ℂ)).re, (huberIter (Finset.range n) (smp data) τ (⟨x0, y0⟩ : ℂ)).im) := by
  unfold Src.huber_iter
  dsimp only
  -- loop invariant after `k` samples, with the weights `w_i = huberW τ ‖z₀ − smp i‖`: the state `(sum_w, x, y)` of the
  -- generated loop is `(Σ_{i<k} w_i, Re Σ_{i<k} w_i • smp i, Im Σ_{i<k} w_i • smp i)`
  rw [foldl_range_inv _ _ (fun k s => s = (∑ i ∈ Finset.range k, huberW τ ‖(⟨x0, y0⟩ : ℂ) - smp data i‖,
      (∑ i ∈ Finset.range k, huberW τ ‖(⟨x0, y0⟩ : ℂ) - smp data i‖ • smp data i).re,
      (∑ i ∈ Finset.range k, huberW τ ‖(⟨x0, y0⟩ : ℂ) - smp data i‖ • smp data i).im)) (by simp [robustOps])
    (fun k s h => by
      rw [h, Finset.sum_range_succ, Finset.sum_range_succ, Complex.add_re, Complex.add_im, Complex.smul_re,
        Complex.smul_im, norm_smp_sub]
      simp only [robustOps, Nat.cast_one, pyMin_eq_min, huberW, smp, smul_eq_mul, mul_comm]) n]
  simp only [huberIter, robustOps, Nat.cast_one, Complex.smul_re, Complex.smul_im, smul_eq_mul, one_div, mul_comm]

/-- a fixed point of the translated `_huber_iter` is the Huber location of the delayed samples: if one more step of
the source's iteration returns the iterate itself (what `huber_m_estimate` iterates towards: it stops when the update is
below `xtol`), the iterate minimises the Huber objective over all of ℂ -/
theorem src_huber_fixed_point_optimal (data : Nat → Nat → ℝ) (n : Nat) (τ x0 y0 : ℝ) (hτ : 0 ≤ τ)
    (hW : ∑ i ∈ Finset.range n, huberW τ ‖(⟨x0, y0⟩ : ℂ) - smp data i‖ ≠ 0)
    (hfix : Src.huber_iter robustOps data n τ x0 y0 = (x0, y0)) (w : ℂ) :
    ∑ i ∈ Finset.range n, huberRho τ ‖(⟨x0, y0⟩ : ℂ) - smp data i‖ ≤ ∑ i ∈ Finset.range n, huberRho τ ‖w - smp data i‖ := by
  rw [src_huber_iter_eq] at hfix
  have h : huberIter (Finset.range n) (smp data) τ (⟨x0, y0⟩ : ℂ) = ⟨x0, y0⟩ :=
    Complex.ext (congrArg Prod.fst hfix) (congrArg Prod.snd hfix)
  exact huber_fixed_point_optimal (Finset.range n) (smp data) τ hτ _ w hW h

/-- the stopping rule of `huber_m_estimate`, on the source: the loop ends as soon as one step of the translated `_huber_iter`
moves the iterate by at most `xtol` in the l1 sense (and returns the result of that step); an iterate with that property
minimises the Huber objective over all of ℂ up to `|W| · xtol · ‖w − z‖` (`W` = sum of the weights ≤ number of samples) -/
theorem src_huber_tolerance_optimal (data : Nat → Nat → ℝ) (n : Nat) (τ x0 y0 xtol : ℝ) (hτ : 0 ≤ τ)
    (hW : ∑ i ∈ Finset.range n, huberW τ ‖(⟨x0, y0⟩ : ℂ) - smp data i‖ ≠ 0)
    (hstop : |x0 - (Src.huber_iter robustOps data n τ x0 y0).1| + |y0 - (Src.huber_iter robustOps data n τ x0 y0).2| ≤ xtol) (w : ℂ) :
    ∑ i ∈ Finset.range n, huberRho τ ‖(⟨x0, y0⟩ : ℂ) - smp data i‖
      ≤ ∑ i ∈ Finset.range n, huberRho τ ‖w - smp data i‖
        + |∑ i ∈ Finset.range n, huberW τ ‖(⟨x0, y0⟩ : ℂ) - smp data i‖| * xtol * ‖w - (⟨x0, y0⟩ : ℂ)‖ := by
  rw [src_huber_iter_eq] at hstop
  refine huber_near_fixed_point_optimal (Finset.range n) (smp data) τ hτ _ w xtol hW ?_
  refine le_trans (Complex.norm_le_abs_re_add_abs_im _) ?_
  simpa using hstop

/-- `_f` as translated from the source is the sum of the distances to the samples (the objective of `geomed`) -/
theorem src_geomed_f_eq (data : Nat → Nat → ℝ) (n : Nat) (z : Nat → ℝ) :
    Src.geomed_f robustOps data n z = ∑ i ∈ Finset.range n, ‖(⟨z 0, z 1⟩ : ℂ) - smp data i‖ :=
  foldl_range_inv _ _ (fun k s => s = ∑ i ∈ Finset.range k, ‖(⟨z 0, z 1⟩ : ℂ) - smp data i‖)
    (by simp [robustOps]) (fun k s h => by rw [h, Finset.sum_range_succ, norm_smp_sub]; rfl) n

/-- the first two outputs of `_gradf_and_inv_hessf` as translated from the source are the real and imaginary
parts of the sum of the unit vectors from the samples to `z` (the gradient of the objective) -/
theorem src_geomed_grad_eq (data : Nat → Nat → ℝ) (n : Nat) (z : Nat → ℝ) :
    ((Src.geomed_gradf_and_inv_hessf robustOps data n z).1, (Src.geomed_gradf_and_inv_hessf robustOps data n z).2.1) =
      ((∑ i ∈ Finset.range n, (‖(⟨z 0, z 1⟩ : ℂ) - smp data i‖⁻¹) • ((⟨z 0, z 1⟩ : ℂ) - smp data i)).re,
       (∑ i ∈ Finset.range n, (‖(⟨z 0, z 1⟩ : ℂ) - smp data i‖⁻¹) • ((⟨z 0, z 1⟩ : ℂ) - smp data i)).im) := by
  unfold Src.geomed_gradf_and_inv_hessf
  dsimp only
  -- the loop also accumulates the Hessian; only its first two components matter here
  refine Prod.ext_iff.2 (foldl_range_inv _ _ (fun k (s : ℝ × ℝ × ℝ × ℝ × ℝ) =>
    s.1 = (∑ i ∈ Finset.range k, (‖(⟨z 0, z 1⟩ : ℂ) - smp data i‖⁻¹) • ((⟨z 0, z 1⟩ : ℂ) - smp data i)).re ∧
    s.2.1 = (∑ i ∈ Finset.range k, (‖(⟨z 0, z 1⟩ : ℂ) - smp data i‖⁻¹) • ((⟨z 0, z 1⟩ : ℂ) - smp data i)).im)
    (by simp [robustOps]) (fun k s h => ?_) n)
  rw [Finset.sum_range_succ, Complex.add_re, Complex.add_im, ← h.1, ← h.2, norm_smp_sub]
  simp [robustOps, smp]

/-- certificate of `geomed` on the source's own quantities: if the iterate `z` is none of the samples and the gradient
the source computes at `z` has Euclidean norm at most `ε` (the Newton iteration drives it to zero), then the objective the
source computes at `z` exceeds its value at any other point `w` by at most `ε‖w − z‖` — for `ε = 0`, `z` is the geometric
median of the delayed samples -/
theorem src_geomed_certificate (data : Nat → Nat → ℝ) (n : Nat) (z w : Nat → ℝ) (ε : ℝ)
    (hz : ∀ i < n, (⟨z 0, z 1⟩ : ℂ) ≠ smp data i)
    (hgrad : Real.sqrt ((Src.geomed_gradf_and_inv_hessf robustOps data n z).1 ^ 2
        + (Src.geomed_gradf_and_inv_hessf robustOps data n z).2.1 ^ 2) ≤ ε) :
    Src.geomed_f robustOps data n z ≤ Src.geomed_f robustOps data n w + ε * ‖(⟨w 0, w 1⟩ : ℂ) - ⟨z 0, z 1⟩‖ := by
  rw [src_geomed_f_eq, src_geomed_f_eq]
  refine geomed_optimal (Finset.range n) (smp data) _ _ ε (fun i hi => hz i (Finset.mem_range.mp hi)) ?_
  have h := Prod.ext_iff.1 (src_geomed_grad_eq data n z)
  rw [Complex.norm_def, Complex.normSq_apply, ← show _ = Complex.re _ from h.1, ← show _ = Complex.im _ from h.2]
  simpa [sq] using hgrad

/-- The median kernel: `_delay_and_sum_noamp_median_nearest`, as translated from the source, applies its solver (`geomed`)
to the list `g_k(τ_tx + τ_rx)` (nearest sample, fill value outside the window), the same delayed samples the mean is taken
of; a solver output `z` that is none of these samples and passes the certificate (the unit vectors from the samples to `z`
sum to norm at most `ε`) minimises the sum of distances to them up to `ε‖w − z‖` -/
theorem src_das_median_nearest_certificate (ops : Ops ℝ) (d : Data ℝ ℂ) (solver : List ℂ → ℂ) (wt : Nat → Nat → ℂ) (tx rx : Nat → Nat)
    (ltx lrx : Nat → Nat → ℝ) (dt t0 : ℝ) (fill : ℂ) (N n pt : Nat) (ε : ℝ) (w : ℂ) :
    let smpl := fun k => (termNoAmp ops d (Tie.C02.problem wt tx rx ltx lrx dt t0 N n) .nearest pt k).getD fill
    let z := Src.das_noamp_median_nearest (Tie.C02.srcOps ops) wt tx rx ltx lrx (ops.ofInt 1 / dt) t0 fill solver N n pt
    z = solver ((List.range N).map smpl) ∧
    ((∀ k ∈ Finset.range N, z ≠ smpl k) → ‖∑ k ∈ Finset.range N, (‖z - smpl k‖⁻¹) • (z - smpl k)‖ ≤ ε →
      ∑ k ∈ Finset.range N, ‖z - smpl k‖ ≤ ∑ k ∈ Finset.range N, ‖w - smpl k‖ + ε * ‖w - z‖) := by
  intro smpl z
  refine ⟨Tie.C02.tie_noamp_median_nearest ops d solver wt tx rx ltx lrx dt t0 fill N n pt, fun hz hg => ?_⟩
  exact geomed_optimal (Finset.range N) smpl z w ε hz hg

/-- The Huber kernel: `_delay_and_sum_noamp_huber_lanczos` applies its solver (`huber_m_estimate(·, τ)`) to the delayed
samples of the definition (Lanczos interpolation); a solver output that is a fixed point of the reweighting step is their
Huber location (it minimises the Huber objective over all of ℂ) -/
theorem src_das_huber_lanczos_fixed_point (ops : Ops ℝ) (sin : ℝ → ℝ) (pi : ℝ) (d : Data ℝ ℂ)
    (hs : ∀ x, ops.sinc x = Src.das_sinc (Tie.C02.srcOpsT ops sin pi) x)
    (hd : ∀ (s1 s2 : ℝ) (v : ℂ), d.smul s2 (d.smul s1 v) = d.smul (s1 * s2) v)
    (solver : List ℂ → ℂ) (wt : Nat → Nat → ℂ) (tx rx : Nat → Nat)
    (ltx lrx : Nat → Nat → ℝ) (dt t0 τ : ℝ) (hτ : 0 ≤ τ) (fill : ℂ) (a N n pt : Nat) (w : ℂ) :
    let smpl := fun k => (termNoAmp ops d (Tie.C02.problem wt tx rx ltx lrx dt t0 N n) (.lanczos a) pt k).getD fill
    let z := Src.das_noamp_huber_lanczos (Tie.C02.srcOpsT ops sin pi) d wt tx rx ltx lrx (ops.ofInt 1 / dt) t0 fill a τ solver N n pt
    z = solver ((List.range N).map smpl) ∧
    (∑ k ∈ Finset.range N, huberW τ ‖z - smpl k‖ ≠ 0 → huberIter (Finset.range N) smpl τ z = z →
      ∑ k ∈ Finset.range N, huberRho τ ‖z - smpl k‖ ≤ ∑ k ∈ Finset.range N, huberRho τ ‖w - smpl k‖) := by
  intro smpl z
  refine ⟨Tie.C02.tie_noamp_huber_lanczos ops sin pi d hs hd solver wt tx rx ltx lrx dt t0 τ fill a N n pt, fun hW hfix => ?_⟩
  exact huber_fixed_point_optimal (Finset.range N) smpl τ hτ z w hW hfix

/-- non-vacuity: two samples `±1`, iterate `0`: one translated step returns `0` (a fixed point, weights `min(1, τ/1)`) -/
example : Src.huber_iter robustOps (fun i j => if j = 0 then (if i = 0 then 1 else -1) else 0) 2 (1 / 2) 0 0 = (0, 0) := by
  simp [Src.huber_iter, robustOps, Src.pyMin, List.range_succ]
  norm_num

end OnSourceRobust

end Arim.C02
