import ArimProofs.Tie.C14
/-! # C14 — ray-geometry caching is transparent for every sequence of queries

The argument (closed form of the answers, invariant, one contract per cached method, simulation) is in
`Lemmas/RayCache.lean`, reached through `Tie/C14.lean`; index normalisation is in `Lemmas/PyIndex.lean`. -/
namespace Arim.C14
open Arim.RayCache

/-- a three-interface geometry with every normal side declared -/
def g3 (raw : Bool) : Geo := { n := 3, incSide := fun _ => some true, outSide := fun _ => some true, rawZeroTest := raw }

/-- Counter-history for the code before the repair (finding F3): with the raw index tested
against 0, `inc_leg_size(-3)` on a three-interface path raises `IndexError` on a fresh object
but answers `None` once `inc_leg_size(0)` has been cached. -/
theorem raw_zero_test_not_transparent :
    spec (g3 true) .incLegSize (-3) = .error .index ∧
    (query (g3 true) (query (g3 true) {} .incLegSize 0 true).2 .incLegSize (-3) true).1 = .ok .none := ⟨by rfl, by rfl⟩

/-- the same history on the current code: both answers are `None` -/
theorem norm_zero_test_same_history :
    spec (g3 false) .incLegSize (-3) = .ok .none ∧
    (query (g3 false) (query (g3 false) {} .incLegSize 0 true).2 .incLegSize (-3) true).1 = .ok .none := ⟨by rfl, by rfl⟩

/-- an out-of-range index is an `IndexError` on a fresh object (any version of the code) -/
theorem spec_index_error (g : Geo) (m : Meth) (r : Int) (hr : norm g.n r = none) :
    spec g m r = .error .index := by
  obtain ⟨body, hb⟩ := query_is_wrap g m
  rw [spec, hb, wrap_of_norm_none hr]

/-- the fresh-object answer only depends on the normalised index (current code) -/
theorem spec_normalised (g : Geo) (h : g.rawZeroTest = false) (m : Meth) (r : Int) (a : Nat)
    (hr : norm g.n r = some a) : spec g m r = spec g m (a : Int) := by
  rw [spec_eq_specN g h, specN_some hr, spec_natCast g h m (norm_lt hr)]

theorem spec_closed_form (g : Geo) (h : g.rawZeroTest = false) (m : Meth) (r : Int) :
    spec g m r = match norm g.n r with
      | Option.none => .error .index
      | some a => ans g m a :=
  spec_eq_specN g h m r

/-- The decorator is transparent: if the body, run with the raw index on any valid state, answers like
the fresh object and keeps the state valid, then so does the wrapped method. -/
theorem wrap_transparent (g : Geo) (h : g.rawZeroTest = false) (m : Meth)
    (body : St → Int → Res × St)
    (hb : ∀ s, Inv g s → ∀ r a, norm g.n r = some a →
      (body s r).1 = spec g m (a : Int) ∧ Inv g (body s r).2)
    (s : St) (hs : Inv g s) (r : Int) (fin : Bool) :
    (wrap g m body s r fin).1 = spec g m r ∧ Inv g (wrap g m body s r fin).2 := by
  have hq : QOK g m (wrap g m body) := by
    refine wrap_ok g m body fun s hs r a hn => ?_
    obtain ⟨h1, h2⟩ := hb s ((inv_iff_invP g h s).2 hs) r a hn
    exact ⟨by rw [h1, spec_natCast g h m (norm_lt hn)], (inv_iff_invP g h _).1 h2⟩
  obtain ⟨h1, h2⟩ := hq s ((inv_iff_invP g h s).1 hs) r fin
  exact ⟨by rw [h1, spec_eq_specN g h], (inv_iff_invP g h _).2 h2⟩

/-- one query on any valid state answers exactly what a fresh object answers (value class or
error kind) and keeps the state valid (also when the answer is an error) -/
theorem query_transparent (g : Geo) (h : g.rawZeroTest = false) (s : St) (hs : Inv g s)
    (m : Meth) (r : Int) (fin : Bool) :
    (query g s m r fin).1 = spec g m r ∧ Inv g (query g s m r fin).2 := by
  obtain ⟨h1, h2⟩ := query_ok h ((inv_iff_invP g h s).1 hs) m r fin
  exact ⟨h1.trans (spec_eq_specN g h m r).symm, (inv_iff_invP g h _).2 h2⟩

theorem inv_step (g : Geo) (h : g.rawZeroTest = false) (s : St) (hs : Inv g s) (op : Op) :
    Inv g (step g s op).2 :=
  (step_sim_inv h hs hs op).2

/-- After any history of operations on a fresh object, every query answers exactly like a fresh object
(same value class, same error kind). -/
theorem cache_transparent (g : Geo) (h : g.rawZeroTest = false) (ops : List Op) (m : Meth)
    (r : Int) (fin : Bool) : (query g (run g {} ops) m r fin).1 = spec g m r :=
  (query_transparent g h _ (inv_run h ops (inv_init g)) m r fin).1

theorem step_transparent (g : Geo) (h : g.rawZeroTest = false) (s : St) (hs : Inv g s) (op : Op) :
    (step g s op).1 = (step g {} op).1 :=
  (step_sim_inv h hs (inv_init g) op).1

/-- after any history, every operation answers what it answers on a fresh object -/
theorem history_transparent (g : Geo) (h : g.rawZeroTest = false) (ops : List Op) (op : Op) :
    (step g (run g {} ops) op).1 = (step g {} op).1 :=
  (step_sim_inv h (inv_run h ops (inv_init g)) (inv_init g) op).1

theorem neg_index_interchangeable (g : Geo) (h : g.rawZeroTest = false) (ops : List Op) (m : Meth)
    (r : Int) (hr : -(g.n : Int) ≤ r ∧ r < 0) (fin : Bool) :
    (query g (run g {} ops) m r fin).1 = (query g (run g {} ops) m (r + g.n) fin).1 := by
  rw [cache_transparent g h, cache_transparent g h,
    spec_normalised g h m r _ (norm_neg hr), spec_normalised g h m (r + g.n) _ (norm_add_len hr)]

/-- a query never un-finalises a key -/
theorem finals_monotone (g : Geo) (s : St) (m : Meth) (r : Int) (fin : Bool) (k : Key)
    (hk : k ∈ s.finals) : k ∈ (query g s m r fin).2.finals :=
  (query_sound g m).finals s r fin k hk

/-- `clear_intermediate_results` keeps every final entry (no hypothesis on duplicates needed:
the filter keeps or drops all entries of a key together) -/
theorem clearIntermediate_keeps_finals (s : St) (k : Key) (hk : k ∈ s.finals) :
    lookup (clearIntermediate s).cache k = lookup s.cache k := by
  rw [lookup_clearIntermediate, if_pos (List.contains_iff_mem.2 hk)]

/-- ... and drops every non-final entry -/
theorem clearIntermediate_drops_nonfinals (s : St) (k : Key) (hk : k ∉ s.finals) :
    lookup (clearIntermediate s).cache k = none := by
  rw [lookup_clearIntermediate, if_neg (mt List.contains_iff_mem.1 hk)]

theorem clearIntermediate_finals (s : St) : (clearIntermediate s).finals = s.finals := rfl

theorem query_caches (g : Geo) (s : St) (m : Meth) (r : Int) (fin : Bool) (a : Nat) (v : Cls)
    (hn : norm g.n r = some a) (hv : (query g s m r fin).1 = .ok v) :
    lookup (query g s m r fin).2.cache (m, a) = some v ∧
    (fin = true → (m, a) ∈ (query g s m r fin).2.finals) := by
  obtain ⟨body, hb⟩ := query_is_wrap g m
  rw [hb] at hv ⊢
  exact wrap_caches g m body s r fin hn hv

/-- a final answer survives `clear_intermediate_results` -/
theorem final_survives_clear (g : Geo) (s : St) (m : Meth) (r : Int) (a : Nat) (v : Cls)
    (hn : norm g.n r = some a) (hv : (query g s m r true).1 = .ok v) :
    lookup (clearIntermediate (query g s m r true).2).cache (m, a) = some v := by
  obtain ⟨h1, h2⟩ := query_caches g s m r true a v hn hv
  rw [clearIntermediate_keeps_finals _ _ (h2 rfl), h1]

/-- The hypothesis `rawZeroTest = false` cannot be dropped for any geometry: with the raw index tested against 0,
on every path with at least one interface `inc_leg_size(-n)` raises `IndexError` on a fresh object but answers
`None` once `inc_leg_size(0)` has been cached. -/
theorem raw_zero_test_never_transparent (g : Geo) (h : g.rawZeroTest = true) (hn : 0 < g.n) :
    spec g .incLegSize (-(g.n : Int)) = .error .index ∧
    (query g (query g {} .incLegSize 0 true).2 .incLegSize (-(g.n : Int)) true).1 = .ok .none := by
  have h0 : norm g.n 0 = some 0 := norm_eq_some_iff.2 ⟨hn, Or.inl rfl⟩
  have h1 : norm g.n (-(g.n : Int)) = some 0 := norm_eq_some_iff.2 ⟨hn, Or.inr (by omega)⟩
  have h2 : norm g.n (-(g.n : Int) - 1) = none := norm_eq_none_iff.2 (Or.inl (by omega))
  have h3 : (-(g.n : Int) == 0) = false := by
    rw [Bool.eq_false_iff]; simp only [ne_eq, beq_iff_eq]; omega
  constructor
  · -- fresh object: the key `(incLegSize, 0)` (`h1`) is missed and the body runs with the raw index `−n ≠ 0` (`h3`), so it
    -- asks `leg_points(−n − 1)`, which is out of range (`h2`)
    simp [spec, query, qIncLegSize, qLeg, wrap, isFirst, andThen, h, h1, h2, h3]
  · -- `inc_leg_size(0)` has stored `None` under `(incLegSize, 0)` (`h0`), and `−n` normalises to the same key (`h1`): a hit
    simp [query, qIncLegSize, wrap, isFirst, h, h0, h1, lookup_cons, addFinal]

/-- a five-interface geometry whose interface 3 has no declared incoming normal side
(`conv_inc(3)` is a `ValueError`) -/
def gNoSide : Geo :=
  { n := 5, incSide := fun k => if k = 3 then Option.none else some true, outSide := fun _ => some true }

/-- a busy history: model functions (which abort on the `ValueError`), a `precompute` block,
a block that aborts on an error, negative and out-of-range indices, clearing -/
def busy : List Op :=
  [.beamspread, .query .signedOut (-2) false, .precompute [(.convInc, 2, true), (.outAngle, -4, false)],
   .clearIntermediate,
   .precompute [(.incPolar, 1, false), (.convInc, 3, true), (.convOut, 0, true)],
   .revBeamspread, .query .incCart 7 true, .transRefl, .query .convOut (-5) true]

-- the hypothesis of the theorems holds for the current code
example : (g3 false).rawZeroTest = false := rfl
example : gNoSide.rawZeroTest = false := rfl

deriving instance DecidableEq for St

/-- the state that `busy` leaves on `gNoSide`, evaluated once for the examples below -/
theorem run_busy : run gNoSide {} busy =
    { cache := [((.convOut, 0), .val), ((.outPolar, 0), .val), ((.outRadius, 0), .val), ((.outCart, 0), .val),
        ((.orient, 0), .val), ((.incPolar, 1), .val), ((.incRadius, 1), .val), ((.incCart, 1), .val),
        ((.orient, 1), .val), ((.legPoints, 1), .val), ((.legPoints, 0), .val), ((.convInc, 2), .val),
        ((.convInc, 1), .val)],
      finals := [(.convOut, 0), (.convInc, 2), (.convInc, 1)] } := by decide +kernel

-- the reached states are not empty, so the theorems are exercised on hits as well as misses
example : (run gNoSide {} busy).cache.length = 13 := by rw [run_busy]; rfl
example : (run gNoSide {} busy).finals = [(.convOut, 0), (.convInc, 2), (.convInc, 1)] := by rw [run_busy]
example : (run (g3 false) {} [.beamspread, .clearIntermediate]).cache.length = 3 := by decide +kernel

-- the answers along the history: values, `ValueError`s, an `IndexError`
example : (step gNoSide {} .beamspread).1 = [.ok .val, .ok .val, .error .value] := rfl
example : (step gNoSide {} .revBeamspread).1 = [.error .value] := rfl
example : (step gNoSide (run gNoSide {} busy) .revBeamspread).1 = [.error .value] := by rw [run_busy]; rfl
example : (step gNoSide {} (.query .incCart 7 true)).1 = [.error .index] := rfl

-- all three kinds of answers and both kinds of errors occur, on a fresh object and after `busy`
example : spec gNoSide .convInc 2 = .ok .val := rfl
example : spec gNoSide .convInc (-5) = .ok .none := rfl
example : spec gNoSide .convInc 3 = .error .value := rfl
example : spec gNoSide .convInc (-2) = .error .value := rfl
example : spec gNoSide .convInc 5 = .error .index := rfl
example : spec gNoSide .outPolar (-1) = .ok .none := rfl
example : (query gNoSide (run gNoSide {} busy) .convInc 2 false).1 = .ok .val := by rw [run_busy]; rfl
example : (query gNoSide (run gNoSide {} busy) .convInc (-2) false).1 = .error .value := by rw [run_busy]; rfl
example : (query gNoSide (run gNoSide {} busy) .convInc (-6) false).1 = .error .index := by rw [run_busy]; rfl
example : (query gNoSide (run gNoSide {} busy) .incLegSize (-5) true).1 = .ok .none := by rw [run_busy]; rfl

-- a block that aborts on an error skips the clean-up, and its answers stop at the error;
-- a block that succeeds keeps only the final entries
example : (step gNoSide {} (.precompute [(.incPolar, 1, false), (.convInc, 3, true), (.convOut, 0, true)])).1
    = [.ok .val, .error .value] := rfl
example : (step gNoSide {} (.precompute [(.incPolar, 1, false), (.convInc, 3, true)])).2.cache.length = 6 := by
  decide +kernel
example : (step gNoSide {} (.precompute [(.incPolar, 1, false), (.convInc, 2, true)])).2.cache.length = 1 := by
  decide +kernel

-- `Inv` is not trivially true, and `query_transparent` needs it: a poisoned cache answers wrongly
def poisoned : St := { cache := [((.incLegSize, 0), .val)] }

example : ¬ Inv (g3 false) poisoned := by
  intro h
  have h1 := (h .incLegSize 0 .val rfl).2
  have h2 : spec (g3 false) .incLegSize ((0 : Nat) : Int) = .ok .none := rfl
  rw [h2] at h1; cases h1

example : (query (g3 false) poisoned .incLegSize (-3) true).1 = .ok .val ∧
    spec (g3 false) .incLegSize (-3) = .ok .none := ⟨rfl, rfl⟩

example : (query gNoSide (run gNoSide {} busy) .signedInc (-1) true).1 = spec gNoSide .signedInc (-1) :=
  cache_transparent gNoSide rfl busy _ _ _
example : (query gNoSide (run gNoSide {} busy) .outCart (-3) true).1 =
    (query gNoSide (run gNoSide {} busy) .outCart 2 true).1 :=
  neg_index_interchangeable gNoSide rfl busy .outCart (-3) (by decide) true
example : Inv gNoSide (run gNoSide {} busy) := inv_run rfl busy (inv_init _)

/-! ## On the source as translated on this run (`ArimProofs/Generated/SrcC14.lean`, tied by `ArimProofs/Tie/C14.lean`)

`SrcC14.query`, `SrcC14.clearIntermediate`, `SrcC14.clearAll`, `SrcC14.precomputeCleansUpOnError` are regenerated from
`/repo/src/arim/ray.py` (decorator, 17 cached methods, clearing methods, `precompute`) by `harness/srctie.py`, which
`harness/regen.py` (in `setup_cmd`) and every check call before building; the Lean build itself regenerates nothing.
`srcStep` runs one operation of a history with them; the model functions (`beamspread`, ...) are sequences of final queries,
issued through `SrcC14.query` as well. -/

/-- a block of queries, issued through the translated `query` -/
def srcRunQueries (g : Geo) (s : St) : List (Meth × Int × Bool) → List Res × St
  | [] => ([], s)
  | (m, r, f) :: rest =>
    match Arim.SrcC14.query g s m r f with
    | (.error e, s') => ([.error e], s')
    | (.ok v, s') => let (rs, s'') := srcRunQueries g s' rest; (.ok v :: rs, s'')

/-- one operation of a history: queries, clearing operations and `precompute` are the translated ones; the model
functions issue the model's query lists (`beamspreadQueries`, ...) through the translated `query` -/
def srcStep (g : Geo) (s : St) : Op → List Res × St
  | .query m r f => let (a, s') := Arim.SrcC14.query g s m r f; ([a], s')
  | .clearIntermediate => ([], Arim.SrcC14.clearIntermediate s)
  | .clearAll => ([], Arim.SrcC14.clearAll s)
  | .precompute ops =>
    let (rs, s') := srcRunQueries g s ops
    if rs.any (fun r => match r with | .error _ => true | .ok _ => false) then
      (rs, if Arim.SrcC14.precomputeCleansUpOnError then Arim.SrcC14.clearIntermediate s' else s')
    else (rs, Arim.SrcC14.clearIntermediate s')
  | .beamspread => srcRunQueries g s (beamspreadQueries g)
  | .revBeamspread => srcRunQueries g s (revBeamspreadQueries g)
  | .transRefl => srcRunQueries g s (transReflQueries g)
  | .revTransRefl => srcRunQueries g s (transReflQueries g)

def srcRun (g : Geo) (s : St) (ops : List Op) : St := ops.foldl (fun s op => (srcStep g s op).2) s

theorem srcRunQueries_eq (g : Geo) (h : g.rawZeroTest = false) (qs : List (Meth × Int × Bool)) :
    ∀ s, srcRunQueries g s qs = runQueries g s qs := by
  induction qs with
  | nil => intro s; rfl
  | cons q rest ih =>
    obtain ⟨m, r, f⟩ := q
    intro s
    simp only [srcRunQueries, runQueries, Arim.Tie.C14.tie_query g h, ih]
    rfl

theorem srcStep_eq (g : Geo) (h : g.rawZeroTest = false) (s : St) (op : Op) : srcStep g s op = step g s op := by
  cases op with
  | query m r f => simp only [srcStep, step, Arim.Tie.C14.tie_query g h]
  | clearIntermediate => rfl
  | clearAll => rfl
  | precompute ops =>
    simp only [srcStep, step, srcRunQueries_eq g h, Arim.Tie.C14.tie_precompute, Arim.Tie.C14.tie_clearIntermediate]
    rfl
  | beamspread | revBeamspread | transRefl | revTransRefl => exact srcRunQueries_eq g h _ s

theorem srcRun_eq (g : Geo) (h : g.rawZeroTest = false) (ops : List Op) : ∀ s, srcRun g s ops = run g s ops := by
  intro s
  simp only [srcRun, run, srcStep_eq g h]

/-- After any history run with the translated decorator, methods and clearing operations, every translated query
answers exactly like a fresh object. -/
theorem src_cache_transparent (g : Geo) (h : g.rawZeroTest = false) (ops : List Op) (m : Meth) (r : Int) (fin : Bool) :
    (Arim.SrcC14.query g (srcRun g {} ops) m r fin).1 = (Arim.SrcC14.query g {} m r true).1 := by
  rw [srcRun_eq g h, Arim.Tie.C14.tie_query g h]
  exact cache_transparent g h ops m r fin

/-- every operation (queries, precompute blocks, model functions) after any history answers what it answers first thing on
a fresh object — on the translated source -/
theorem src_history_transparent (g : Geo) (h : g.rawZeroTest = false) (ops : List Op) (op : Op) :
    (srcStep g (srcRun g {} ops) op).1 = (srcStep g {} op).1 := by
  rw [srcRun_eq g h, srcStep_eq g h, srcStep_eq g h]
  exact history_transparent g h ops op

/-- negative and positive indices are interchangeable after any history — on the translated source -/
theorem src_neg_index_interchangeable (g : Geo) (h : g.rawZeroTest = false) (ops : List Op) (m : Meth)
    (r : Int) (hr : -(g.n : Int) ≤ r ∧ r < 0) (fin : Bool) :
    (Arim.SrcC14.query g (srcRun g {} ops) m r fin).1 = (Arim.SrcC14.query g (srcRun g {} ops) m (r + g.n) fin).1 := by
  rw [srcRun_eq g h, Arim.Tie.C14.tie_query g h]
  exact neg_index_interchangeable g h ops m r hr fin

example : (srcRun (g3 false) {} [.beamspread, .query .signedOut (-2) false, .clearIntermediate, .revTransRefl]).cache.length
    = (run (g3 false) {} [.beamspread, .query .signedOut (-2) false, .clearIntermediate, .revTransRefl]).cache.length := by
  rw [srcRun_eq (g3 false) rfl]

end Arim.C14
