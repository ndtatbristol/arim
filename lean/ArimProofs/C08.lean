import ArimModel.Assembly
import ArimProofs.Lemmas.Assembly
import ArimProofs.Tie.C08
import ArimProofs.Tie.C03
import ArimProofs.Lemmas.Chunk
import ArimProofs.Lemmas.FoldSum
import Mathlib.Algebra.Group.Basic
import Mathlib.Algebra.BigOperators.Group.Finset.Basic
import Mathlib.Algebra.Field.Basic
import Mathlib.Analysis.SpecialFunctions.Trigonometric.Sinc
import Mathlib.Tactic.NormNum
/-! # C08 — model coefficients are assembled as Q_i * Q'_j * S(θ_i − a, θ_j − a) -/
namespace Arim.C08
open Arim.Assembly

section weights
variable {C : Type} [CommMonoid C]

/-- switching a factor off replaces exactly that factor by one (here: directivity) -/
theorem tx_directivity_off (t b a dir dir' : C) (tr bm at' : Bool) :
    txWeight ⟨false, tr, bm, at'⟩ 1 dir t b a = txWeight ⟨false, tr, bm, at'⟩ 1 dir' t b a := rfl

theorem tx_all_on (dir t b a : C) : txWeight ⟨true, true, true, true⟩ 1 dir t b a = dir * t * b * a := rfl

theorem all_off (dir t b a sl : C) :
    txWeight ⟨false, false, false, false⟩ 1 dir t b a = 1 ∧ rxWeight ⟨false, false, false, false⟩ 1 dir t b a sl = sl := by
  simp only [rx_eq_tx_mul, txWeight_eq, pick_false, one_mul, and_self]

/-- the amplitude of timetrace `k` only depends on its element pair `(tx k, rx k)`: two frames that attribute the same pair
to `k` and `k'` give the same amplitude (repeated, partial, permuted tx/rx lists are covered) -/
theorem amp_depends_on_pair {K : Type} [Sub K] (S : K → K → C) (thTx thRx : Nat → Nat → K) (Q Q' : Nat → Nat → C) (a : K)
    (tx rx tx' rx' : Nat → Nat) (p k k' : Nat) (h1 : tx k = tx' k') (h2 : rx k = rx' k') :
    modelAmp S thTx thRx Q Q' a tx rx p k = modelAmp S thTx thRx Q Q' a tx' rx' p k' := by
  simp only [modelAmp, h1, h2]

/-- `tx_ray_weights` is the product of the four switchable factors -/
theorem weights_product (sw : Switches) (d t b a : C) :
    txWeight sw 1 d t b a =
      (if sw.directivity then d else 1) * (if sw.transrefl then t else 1) *
      (if sw.beamspread then b else 1) * (if sw.attenuation then a else 1) := rfl

theorem rx_weights_product (sw : Switches) (d t b a sl : C) :
    rxWeight sw 1 d t b a sl =
      (if sw.directivity then d else 1) * (if sw.transrefl then t else 1) *
      (if sw.beamspread then b else 1) * (if sw.attenuation then a else 1) * sl := rfl

/-! switching one factor off: the weight no longer depends on that factor … -/
theorem tx_directivity_off' (sw : Switches) (d d' t b a : C) :
    txWeight {sw with directivity := false} 1 d t b a = txWeight {sw with directivity := false} 1 d' t b a := rfl
theorem tx_transrefl_off (sw : Switches) (d t t' b a : C) :
    txWeight {sw with transrefl := false} 1 d t b a = txWeight {sw with transrefl := false} 1 d t' b a := rfl
theorem tx_beamspread_off (sw : Switches) (d t b b' a : C) :
    txWeight {sw with beamspread := false} 1 d t b a = txWeight {sw with beamspread := false} 1 d t b' a := rfl
theorem tx_attenuation_off (sw : Switches) (d t b a a' : C) :
    txWeight {sw with attenuation := false} 1 d t b a = txWeight {sw with attenuation := false} 1 d t b a' := rfl

/-- commutativity, for each of the four places of the product: the factor moved to the end, `1` left in its place -/
theorem mul_mul_mul_factor_last (x y z w : C) :
    x * y * z * w = 1 * y * z * w * x ∧ x * y * z * w = x * 1 * z * w * y ∧
    x * y * z * w = x * y * 1 * w * z ∧ x * y * z * w = x * y * z * 1 * w := by
  simp only [mul_one, mul_comm, mul_left_comm, and_self]

/-- every factor enters the weight as `1` (off) or itself (on): the weight is the weight without it times its `pick`.
In the product of `weights_product` the switched-off factor is `1`; the rest is commutativity. -/
theorem tx_factor_split (sw : Switches) (d t b a : C) :
    txWeight sw 1 d t b a = txWeight {sw with directivity := false} 1 d t b a * pick sw.directivity d 1 ∧
    txWeight sw 1 d t b a = txWeight {sw with transrefl := false} 1 d t b a * pick sw.transrefl t 1 ∧
    txWeight sw 1 d t b a = txWeight {sw with beamspread := false} 1 d t b a * pick sw.beamspread b 1 ∧
    txWeight sw 1 d t b a = txWeight {sw with attenuation := false} 1 d t b a * pick sw.attenuation a 1 := by
  simp only [txWeight_eq, pick_false]
  exact mul_mul_mul_factor_last _ _ _ _

/-! … and switching it on multiplies by exactly that factor: `tx_factor_split` at a factor that is on -/
theorem tx_directivity_on (sw : Switches) (d t b a : C) :
    txWeight {sw with directivity := true} 1 d t b a = txWeight {sw with directivity := false} 1 d t b a * d :=
  (tx_factor_split {sw with directivity := true} d t b a).1
theorem tx_transrefl_on (sw : Switches) (d t b a : C) :
    txWeight {sw with transrefl := true} 1 d t b a = txWeight {sw with transrefl := false} 1 d t b a * t :=
  (tx_factor_split {sw with transrefl := true} d t b a).2.1
theorem tx_beamspread_on (sw : Switches) (d t b a : C) :
    txWeight {sw with beamspread := true} 1 d t b a = txWeight {sw with beamspread := false} 1 d t b a * b :=
  (tx_factor_split {sw with beamspread := true} d t b a).2.2.1
theorem tx_attenuation_on (sw : Switches) (d t b a : C) :
    txWeight {sw with attenuation := true} 1 d t b a = txWeight {sw with attenuation := false} 1 d t b a * a :=
  (tx_factor_split {sw with attenuation := true} d t b a).2.2.2

/-! the same for the receive weight (with its trailing `√λ`) -/
theorem rx_directivity_off (sw : Switches) (d d' t b a sl : C) :
    rxWeight {sw with directivity := false} 1 d t b a sl = rxWeight {sw with directivity := false} 1 d' t b a sl := rfl
theorem rx_transrefl_off (sw : Switches) (d t t' b a sl : C) :
    rxWeight {sw with transrefl := false} 1 d t b a sl = rxWeight {sw with transrefl := false} 1 d t' b a sl := rfl
theorem rx_beamspread_off (sw : Switches) (d t b b' a sl : C) :
    rxWeight {sw with beamspread := false} 1 d t b a sl = rxWeight {sw with beamspread := false} 1 d t b' a sl := rfl
theorem rx_attenuation_off (sw : Switches) (d t b a a' sl : C) :
    rxWeight {sw with attenuation := false} 1 d t b a sl = rxWeight {sw with attenuation := false} 1 d t b a' sl := rfl

/-- a factor split off a transmit weight splits off the receive weight in the same way: the trailing `√λ` commutes
past it -/
theorem rx_of_tx {sw sw' : Switches} {d t b a d' t' b' a' x : C} (sl : C)
    (h : txWeight sw 1 d t b a = txWeight sw' 1 d' t' b' a' * x) :
    rxWeight sw 1 d t b a sl = rxWeight sw' 1 d' t' b' a' sl * x := by
  rw [rx_eq_tx_mul, rx_eq_tx_mul, h, mul_right_comm]

theorem rx_directivity_on (sw : Switches) (d t b a sl : C) :
    rxWeight {sw with directivity := true} 1 d t b a sl = rxWeight {sw with directivity := false} 1 d t b a sl * d :=
  rx_of_tx sl (tx_directivity_on sw d t b a)
theorem rx_transrefl_on (sw : Switches) (d t b a sl : C) :
    rxWeight {sw with transrefl := true} 1 d t b a sl = rxWeight {sw with transrefl := false} 1 d t b a sl * t :=
  rx_of_tx sl (tx_transrefl_on sw d t b a)
theorem rx_beamspread_on (sw : Switches) (d t b a sl : C) :
    rxWeight {sw with beamspread := true} 1 d t b a sl = rxWeight {sw with beamspread := false} 1 d t b a sl * b :=
  rx_of_tx sl (tx_beamspread_on sw d t b a)
theorem rx_attenuation_on (sw : Switches) (d t b a sl : C) :
    rxWeight {sw with attenuation := true} 1 d t b a sl = rxWeight {sw with attenuation := false} 1 d t b a sl * a :=
  rx_of_tx sl (tx_attenuation_on sw d t b a)

end weights

section amp
variable {C : Type} [Mul C]

/-- the amplitude formula `P_ij = S(θ_i − a, θ_j − a) · Q_i · Q'_j` -/
theorem amp_formula {K : Type} [Sub K] (S : K → K → C) (thTx thRx : Nat → Nat → K) (Q Q' : Nat → Nat → C) (a : K)
    (tx rx : Nat → Nat) (p k : Nat) :
    modelAmp S thTx thRx Q Q' a tx rx p k =
      S (thTx p (tx k) - a) (thRx p (rx k) - a) * Q p (tx k) * Q' p (rx k) := rfl

/-- permuting (or in any way re-indexing) the frame re-indexes the amplitudes the same way -/
theorem amp_perm {K : Type} [Sub K] (S : K → K → C) (thTx thRx : Nat → Nat → K) (Q Q' : Nat → Nat → C) (a : K)
    (tx rx : Nat → Nat) (σ : Nat → Nat) (p k : Nat) :
    modelAmp S thTx thRx Q Q' a (tx ∘ σ) (rx ∘ σ) p k = modelAmp S thTx thRx Q Q' a tx rx p (σ k) := rfl

/-- rotating the scatterer by `a` is evaluating the scattering function at shifted angles -/
theorem amp_rotation {K : Type} [SubtractionMonoid K] (S : K → K → C) (thTx thRx : Nat → Nat → K) (Q Q' : Nat → Nat → C)
    (a : K) (tx rx : Nat → Nat) (p k : Nat) :
    modelAmp S thTx thRx Q Q' a tx rx p k =
      modelAmp (fun x y => S (x - a) (y - a)) thTx thRx Q Q' 0 tx rx p k := by
  simp only [amp_formula, sub_zero]

theorem amp_rotation_add {K : Type} [AddCommGroup K] (S : K → K → C) (thTx thRx : Nat → Nat → K) (Q Q' : Nat → Nat → C)
    (a b : K) (tx rx : Nat → Nat) (p k : Nat) :
    modelAmp (fun x y => S (x - a) (y - a)) thTx thRx Q Q' b tx rx p k =
      modelAmp S thTx thRx Q Q' (a + b) tx rx p k := by
  simp only [amp_formula, sub_sub, add_comm a b]

end amp

section sens
variable {C : Type}

theorem sensitivity_eq_sum' [NonUnitalNonAssocSemiring C] (divN : C → Nat → C) (w : Nat → C) (P : Nat → Nat → C) (N p : Nat) :
    sensitivityUniform 0 divN w P N p = divN (∑ k ∈ Finset.range N, w k * P p k) N := by
  rw [sensitivityUniform, Arim.foldl_range_add, zero_add]

/-- `sensitivity_uniform_tfm` is the mean of the weighted amplitudes -/
theorem sensitivity_eq_sum [Field C] (w : Nat → C) (P : Nat → Nat → C) (N p : Nat) :
    sensitivityUniform 0 (fun x (n : Nat) => x / (n : C)) w P N p = (∑ k ∈ Finset.range N, w k * P p k) / (N : C) :=
  sensitivity_eq_sum' _ w P N p

variable [Mul C] [Add C]

/-- the chunked computation returns the one-chunk value at every point of the grid and nothing outside, whatever the
block size: the chunk `p / block` exists and passes the test of the model (`C13.lt_numChunks_iff`, `C13.mem_chunk_iff`), and
no chunk reaches beyond `numpoints` -/
theorem sensitivityChunked_eq (zero : C) (divN : C → Nat → C) (w : Nat → C) (P : Nat → Nat → C) (N : Nat)
    (block numpoints p : Nat) (hb : 1 ≤ block) :
    sensitivityChunked zero divN w P N block numpoints p =
      if p < numpoints then some (sensitivityUniform zero divN w P N p) else none := by
  unfold sensitivityChunked
  -- `sensitivityChunked` spells out `numChunks numpoints block` and the upper end of `chunk numpoints block c` by hand:
  -- `C13.lt_numChunks_iff` and `C13.mem_chunk_iff` below apply to them by unfolding
  simp only [List.head?_filter]
  split
  next hp =>
    generalize hf : List.find? _ _ = o
    cases o with
    | some c => rfl
    | none =>
      -- impossible: chunk `p / block` is among the chunks searched and passes the test
      refine absurd ?_ (List.find?_eq_none.1 hf _ (List.mem_range.2 ((Arim.C13.lt_numChunks_iff hb).2
        (Nat.lt_of_le_of_lt (Nat.div_mul_le_self p block) hp))))
      exact Bool.and_eq_true_iff.2 ⟨decide_eq_true (Nat.div_mul_le_self p block),
        decide_eq_true ((Arim.C13.mem_chunk_iff hb).2 ⟨hp, rfl⟩).2⟩
  next hp =>
    rw [List.find?_eq_none.2 fun c _ h => hp (Nat.lt_of_lt_of_le
      (of_decide_eq_true (Bool.and_eq_true_iff.1 h).2) (Nat.min_le_right _ _))]
    rfl

theorem sensitivity_chunk_indep (zero : C) (divN : C → Nat → C) (w : Nat → C) (P : Nat → Nat → C) (N : Nat)
    (block numpoints p : Nat) (hb : 1 ≤ block) (hp : p < numpoints) :
    sensitivityChunked zero divN w P N block numpoints p = some (sensitivityUniform zero divN w P N p) := by
  rw [sensitivityChunked_eq _ _ _ _ _ _ _ _ hb, if_pos hp]

theorem sensitivity_chunk_indep' (zero : C) (divN : C → Nat → C) (w : Nat → C) (P : Nat → Nat → C) (N : Nat)
    (block block' numpoints p : Nat) (hb : 1 ≤ block) (hb' : 1 ≤ block') :
    sensitivityChunked zero divN w P N block numpoints p = sensitivityChunked zero divN w P N block' numpoints p := by
  rw [sensitivityChunked_eq _ _ _ _ _ _ _ _ hb, sensitivityChunked_eq _ _ _ _ _ _ _ _ hb']

end sens

section dir

theorem directivity_law {K : Type} [Mul K] [Div K] (sinc sin : K → K) (w θ lam : K) :
    directivity sinc sin w θ lam = sinc ((w / lam) * sin θ) := rfl

theorem directivity_normal {K : Type} [MulZeroClass K] [Div K] [One K] (sinc sin : K → K) (h0 : sin 0 = 0) (h1 : sinc 0 = 1)
    (w lam : K) : directivity sinc sin w 0 lam = 1 := by
  rw [directivity_law, h0, mul_zero, h1]

/-- with NumPy's normalised `sinc(x) = sin(πx)/(πx)` -/
theorem directivity_normal_npsinc (w lam : ℝ) :
    directivity (fun x => Real.sinc (Real.pi * x)) Real.sin w 0 lam = 1 :=
  directivity_normal _ Real.sin Real.sin_zero (by rw [mul_zero, Real.sinc_zero]) w lam

end dir

/-! The directivity of the code as translated from `/repo/src` on every run (`Generated/SrcC08.lean`, `Tie/C08.lean`). -/
section OnSourceDirectivity
open Arim.Tie.C08

/-- the routines of the translated code at `K = ℝ`, with NumPy's normalised `sinc`;
`directivity_2d_rectangular_in_fluid` calls only `sin`, `sinc` and `ofNat`.  The other fields are placeholders never
called here: Mathlib's `round` rounds ties up where Python's rounds them to even, `⌊x⌋` is not `int(x)` for negative
`x`. -/
noncomputable def srcOps : Src.Ops ℝ :=
  { sin := Real.sin, cos := Real.cos, asin := Real.arcsin, sqrt := Real.sqrt, exp := Real.exp,
    sinc := fun x => Real.sinc (Real.pi * x),
    pi := Real.pi, ofNat := fun n => (n : ℝ), ofInt := fun z => (z : ℝ),
    floor := fun x => ⌊x⌋, round := fun x => round x, trunc := fun x => ⌊x⌋ }

@[simp] theorem srcOps_ofNat_zero : srcOps.ofNat 0 = 0 := Nat.cast_zero

/-- for a non-negative width and wavelength `directivity_2d_rectangular_in_fluid` returns `sinc(π · (a/λ) sin θ)` -/
theorem src_directivity_law (θ w lam : ℝ) (hw : 0 ≤ w) (hl : 0 ≤ lam) :
    Src.directivity_2d_rectangular_in_fluid srcOps θ w lam = some (Real.sinc (Real.pi * ((w / lam) * Real.sin θ))) := by
  rw [tie_directivity_ok srcOps θ w lam (by rw [srcOps_ofNat_zero]; exact not_lt.2 hw)
    (by rw [srcOps_ofNat_zero]; exact not_lt.2 hl)]
  rfl

/-- … and raises otherwise -/
theorem src_directivity_rejects (θ w lam : ℝ) (h : w < 0 ∨ lam < 0) :
    Src.directivity_2d_rectangular_in_fluid srcOps θ w lam = none := by
  rw [tie_directivity, srcOps_ofNat_zero]
  rcases h with h | h
  · rw [if_pos h]
  · rw [if_pos h, ite_self]

theorem src_directivity_normal (w lam : ℝ) (hw : 0 ≤ w) (hl : 0 ≤ lam) :
    Src.directivity_2d_rectangular_in_fluid srcOps 0 w lam = some 1 := by
  rw [src_directivity_law 0 w lam hw hl, Real.sin_zero, mul_zero, mul_zero, Real.sinc_zero]

end OnSourceDirectivity

section examples

example : txWeight (C := ℚ) ⟨true, false, true, true⟩ 1 2 3 5 7 = 2 * 5 * 7 := by
  rw [weights_product]; norm_num
example : rxWeight (C := ℚ) ⟨true, true, false, true⟩ 1 2 3 5 7 11 = 2 * 3 * 7 * 11 := by
  rw [rx_weights_product]; norm_num
example : txWeight (C := ℚ) ⟨true, true, true, true⟩ 1 2 3 5 7 = txWeight ⟨true, true, false, true⟩ 1 2 3 5 7 * 5 :=
  tx_beamspread_on ⟨true, true, true, true⟩ 2 3 5 7

/-- an HMC-like frame of 3 timetraces on 2 elements, reversed by `σ k = 2 - k` -/
def exS : ℚ → ℚ → ℚ := fun x y => x + 2 * y
def exThTx : Nat → Nat → ℚ := fun p i => p + i
def exThRx : Nat → Nat → ℚ := fun p j => p * j
def exQ : Nat → Nat → ℚ := fun _ i => i + 1
def exQ' : Nat → Nat → ℚ := fun _ j => j + 2
def exTx : Nat → Nat := fun k => [0, 0, 1].getD k 0
def exRx : Nat → Nat := fun k => [0, 1, 1].getD k 0

example : modelAmp exS exThTx exThRx exQ exQ' 1 (exTx ∘ (fun k => 2 - k)) (exRx ∘ (fun k => 2 - k)) 3 0 =
    modelAmp exS exThTx exThRx exQ exQ' 1 exTx exRx 3 2 := amp_perm _ _ _ _ _ _ _ _ _ _ _
/-- timetrace 2 is the pair (1,1): `S(3+1−1, 3·1−1) · Q[3,1] · Q'[3,1] = (3 + 2·2) · 2 · 3 = 42` -/
example : modelAmp exS exThTx exThRx exQ exQ' 1 exTx exRx 3 2 = 42 := by
  decide +kernel
example : modelAmp exS exThTx exThRx exQ exQ' 1 exTx exRx 3 2 =
    modelAmp (fun x y => exS (x - 1) (y - 1)) exThTx exThRx exQ exQ' 0 exTx exRx 3 2 := amp_rotation _ _ _ _ _ _ _ _ _ _

example : sensitivityUniform (C := ℚ) 0 (fun x (n : Nat) => x / (n : ℚ)) (fun _ => 2) (fun p k => p + k) 3 1 = 4 := by
  decide +kernel

/-- 7 points in blocks of 3 (chunks `[0,3) [3,6) [6,7)`): point 6 is computed, by the last, partial chunk -/
example : sensitivityChunked (C := ℚ) 0 (fun x (n : Nat) => x / (n : ℚ)) (fun _ => 2) (fun p k => p + k) 3 3 7 6 =
    some (sensitivityUniform 0 (fun x (n : Nat) => x / (n : ℚ)) (fun _ => 2) (fun p k => p + k) 3 6) :=
  sensitivity_chunk_indep _ _ _ _ _ _ _ _ (by decide) (by decide)
example : (List.range ((7 + 3 - 1) / 3)).filter
      (fun c => decide (c * 3 ≤ 6) && decide (6 < min ((c + 1) * 3) 7)) = [2] := by decide
example : sensitivityChunked (C := ℚ) 0 (fun x (n : Nat) => x / (n : ℚ)) (fun _ => 2) (fun p k => p + k) 3 3 7 7 = none :=
  (sensitivityChunked_eq _ _ _ _ _ _ _ _ (by decide)).trans (if_neg (by decide))

example : directivity (fun x => Real.sinc (Real.pi * x)) Real.sin 0.5 0 1.2 = 1 := directivity_normal_npsinc _ _

end examples

/-! The ray weights as the code translated from `/repo/src` on every run assembles them (`Generated/SrcC03.lean`,
`Tie/C03.lean`). -/
section OnSourceWeights
open Arim.Tie.C03
variable {C : Type} [CommMonoid C]

/-- every subset of switches, transmit side: the weight is the product of exactly the enabled factors — directivity,
forward transmission-reflection in displacement units, forward beamspread, attenuation — whatever the other fields hold -/
theorem src_tx_weights_product (d b t a : Bool) (f : Arim.SrcC03.Factors C) :
    Arim.SrcC03.tx_ray_weights d b t a 1 f =
      (if d then f.directivity else 1) * (if t then f.transrefl_fwd_displacement else 1) *
      (if b then f.beamspread_fwd else 1) * (if a then f.attenuation else 1) := rfl

/-- receive side: the reverse terms, times `sqrt(lambda)` of the last mode in every case -/
theorem src_rx_weights_product (d b t a : Bool) (f : Arim.SrcC03.Factors C) :
    Arim.SrcC03.rx_ray_weights d b t a 1 f =
      (if d then f.directivity else 1) * (if t then f.transrefl_rev_displacement else 1) *
      (if b then f.beamspread_rev else 1) * (if a then f.attenuation else 1) * f.sqrt_lambda_last_mode := rfl

/-- a switched-off factor does not influence the weight (here attenuation) -/
theorem src_attenuation_off (d b t : Bool) (f g : Arim.SrcC03.Factors C)
    (h1 : f.directivity = g.directivity) (h2 : f.transrefl_fwd_displacement = g.transrefl_fwd_displacement)
    (h3 : f.beamspread_fwd = g.beamspread_fwd) :
    Arim.SrcC03.tx_ray_weights d b t false 1 f = Arim.SrcC03.tx_ray_weights d b t false 1 g := by
  rw [src_tx_weights_product, src_tx_weights_product, h1, h2, h3]; rfl

/-- … and a switched-on one does -/
theorem src_attenuation_on (d b t : Bool) (f : Arim.SrcC03.Factors C) :
    Arim.SrcC03.tx_ray_weights d b t true 1 f = Arim.SrcC03.tx_ray_weights d b t false 1 f * f.attenuation := by
  rw [src_tx_weights_product, src_tx_weights_product, if_pos rfl, if_neg Bool.false_ne_true, mul_one]

end OnSourceWeights

end Arim.C08
