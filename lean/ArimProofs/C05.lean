import ArimModel.RayGeom
import ArimProofs.Tie.C05
import ArimProofs.Lemmas.Geometry
import ArimProofs.Lemmas.GeometryReal
import ArimProofs.Lemmas.FoldSum
import Mathlib.Analysis.SpecialFunctions.Trigonometric.Inverse
import Mathlib.Analysis.SpecialFunctions.Complex.Arg
import Mathlib.Analysis.SpecialFunctions.Sqrt
import Mathlib.Tactic.NormNum
import Mathlib.Tactic.Ring
/-! # C05 — ray geometry: leg lengths, travel time and angle conventions are as documented

A ray is a list of nodes. Its legs are characterised once through the two nodes a leg joins (`outLeg_eq_bind`,
`incLeg_succ`); reversal (incoming at `k` = outgoing at `n-1-k` of the reversed ray), existence and explicit values of
the legs follow from that, and travel time has one closed form (`travelTime_eq`). Over `ℝ` (`tR`): ranges of the angles,
the signed-angle rule as a statement about two real numbers (`signedLegAngle_tR`), leg size = `dist3`, the leg length
measured in an orthonormal local frame is the leg size (`radius_eq_size`), and the angles do not depend on the unit of
length. -/
namespace Arim.C05
open Arim Arim.Geo Arim.RayGeom

section rules
variable {α : Type} [Add α] [Sub α] [Mul α] [Div α] [Neg α] [LT α] [DecidableLT α] [LE α] [DecidableLE α]

set_option linter.unusedSectionVars false in
/-- the signed-angle rule of `_signed_leg_angle`: `+θ` when the azimuth lies in `(−π/2, π/2]`, `−θ` otherwise -/
theorem signed_rule (t : Trig α) (polar az : α) :
    signedLegAngle t polar az = if (-(t.pi / t.two) < az ∧ az ≤ t.pi / t.two) then polar else -polar := rfl

theorem legAt_conventional (t : Trig α) (here : Node α) (other : P3 α) (side : Option Bool) :
    (legAt t here other side).conventional =
      side.map fun s => if s then (legAt t here other side).polar else t.pi - (legAt t here other side).polar := rfl

/-- the conventional angle is the polar angle or its supplement, according to the declared side of the normal -/
theorem conventional_rule (t : Trig α) (here : Node α) (other : P3 α) (side : Bool) :
    (legAt t here other (some side)).conventional =
      some (if side then (legAt t here other (some side)).polar else t.pi - (legAt t here other (some side)).polar) := rfl

/-- an undeclared normal side makes the conventional angle an error, nothing else -/
theorem conventional_undeclared (t : Trig α) (here : Node α) (other : P3 α) :
    (legAt t here other none).conventional = none := rfl

theorem leg_size_eq (t : Trig α) (here : Node α) (other : P3 α) (side : Option Bool) :
    (legAt t here other side).size = norm2 t (vsub other here.p) := rfl

end rules

section reversal
variable {α : Type}

/-- the per-node operation of `Interface.reverse`: swap the two normal-side flags -/
def flipNode (nd : Node α) : Node α := { nd with incSide := nd.outSide, outSide := nd.incSide }

theorem reverseRay_eq (ray : List (Node α)) : RayGeom.reverseRay ray = (ray.map flipNode).reverse := rfl

@[simp] theorem reverseRay_length (ray : List (Node α)) : (RayGeom.reverseRay ray).length = ray.length := by
  simp [reverseRay_eq]

theorem reverseRay_getElem? (ray : List (Node α)) (i j : Nat) (h : i + j + 1 = ray.length) :
    (RayGeom.reverseRay ray)[i]? = (ray[j]?).map flipNode := by
  rw [reverseRay_eq, List.getElem?_reverse (by rw [List.length_map]; omega), List.getElem?_map,
    List.length_map, show ray.length - 1 - i = j by omega]

theorem flipNode_flipNode (nd : Node α) : flipNode (flipNode nd) = nd := rfl

theorem reverseRay_involutive (ray : List (Node α)) : RayGeom.reverseRay (RayGeom.reverseRay ray) = ray := by
  simp only [reverseRay_eq, List.map_reverse, List.reverse_reverse, List.map_map]
  exact (List.map_congr_left fun nd _ => flipNode_flipNode nd).trans (List.map_id ray)

end reversal

theorem isSome_bind_map {α β γ : Type} (a : Option α) (b : Option β) (f : α → β → γ) :
    (a.bind fun x => b.map (f x)).isSome ↔ a.isSome ∧ b.isSome := by
  cases a <;> cases b <;> simp

section structural
variable {α : Type} [Add α] [Sub α] [Mul α] [Div α] [Neg α] [LT α] [DecidableLT α] [LE α] [DecidableLE α]

theorem legAt_flipNode (t : Trig α) (here : Node α) (other : P3 α) (side : Option Bool) :
    legAt t (flipNode here) other side = legAt t here other side := rfl

theorem outLeg_eq_bind (t : Trig α) (ray : List (Node α)) (k : Nat) :
    outLeg t ray k =
      ray[k]?.bind fun here => ray[k + 1]?.map fun next => legAt t here next.p here.outSide := by
  unfold outLeg; cases ray[k]? <;> cases ray[k + 1]? <;> rfl

theorem incLeg_succ (t : Trig α) (ray : List (Node α)) (k : Nat) :
    incLeg t ray (k + 1) =
      ray[k + 1]?.bind fun here => ray[k]?.map fun prev => legAt t here prev.p here.incSide := by
  unfold incLeg; rw [if_neg (Nat.succ_ne_zero k), Nat.add_sub_cancel]
  cases ray[k + 1]? <;> cases ray[k]? <;> rfl

theorem first_has_no_inc (t : Trig α) (ray : List (Node α)) : incLeg t ray 0 = none := rfl

/-- holds for the empty ray too, where `ray.length - 1 = 0` -/
theorem last_has_no_out (t : Trig α) (ray : List (Node α)) : outLeg t ray (ray.length - 1) = none := by
  rw [outLeg_eq_bind, List.getElem?_eq_none (l := ray) (i := ray.length - 1 + 1) (by omega)]
  cases ray[ray.length - 1]? <;> rfl

/-- every incoming quantity at interface `k` is the outgoing quantity at interface `n-1-k` of the reversed path -/
theorem inc_eq_out_reversed (t : Trig α) (ray : List (Node α)) (k : Nat) (hk : k < ray.length) :
    incLeg t ray k = outLeg t (RayGeom.reverseRay ray) (ray.length - 1 - k) := by
  cases k with
  | zero => rw [Nat.sub_zero, ← reverseRay_length ray, last_has_no_out]; rfl
  | succ k =>
    rw [incLeg_succ, outLeg_eq_bind, reverseRay_getElem? ray _ (k + 1) (by omega),
      reverseRay_getElem? ray _ k (by omega)]
    cases ray[k + 1]? <;> cases ray[k]? <;> rfl

/-- `inc_eq_out_reversed` read on the reversed ray, reversal being an involution -/
theorem out_eq_inc_reversed (t : Trig α) (ray : List (Node α)) (k : Nat) (hk : k < ray.length) :
    outLeg t ray k = incLeg t (RayGeom.reverseRay ray) (ray.length - 1 - k) := by
  have h := inc_eq_out_reversed t (RayGeom.reverseRay ray) (ray.length - 1 - k)
    (by rw [reverseRay_length]; omega)
  rw [reverseRay_involutive, reverseRay_length, show ray.length - 1 - (ray.length - 1 - k) = k by omega] at h
  exact h.symm

theorem inc_isSome_iff (t : Trig α) (ray : List (Node α)) (k : Nat) :
    (incLeg t ray k).isSome ↔ 0 < k ∧ k < ray.length := by
  cases k with
  | zero => simp [first_has_no_inc]
  | succ k =>
    rw [incLeg_succ, isSome_bind_map, isSome_getElem?, isSome_getElem?]
    omega

theorem out_isSome_iff (t : Trig α) (ray : List (Node α)) (k : Nat) :
    (outLeg t ray k).isSome ↔ k + 1 < ray.length := by
  rw [outLeg_eq_bind, isSome_bind_map, isSome_getElem?, isSome_getElem?]
  omega

theorem incLeg_eq (t : Trig α) (ray : List (Node α)) (k : Nat) (h0 : 0 < k) (hk : k < ray.length) :
    incLeg t ray k = some (legAt t ray[k] (ray[k - 1]'(by omega)).p ray[k].incSide) := by
  cases k with
  | zero => omega
  | succ k => rw [incLeg_succ, List.getElem?_eq_getElem hk, List.getElem?_eq_getElem (by omega)]; rfl

theorem outLeg_eq (t : Trig α) (ray : List (Node α)) (k : Nat) (hk : k + 1 < ray.length) :
    outLeg t ray k = some (legAt t (ray[k]'(by omega)) (ray[k + 1]'hk).p (ray[k]'(by omega)).outSide) := by
  rw [outLeg_eq_bind, List.getElem?_eq_getElem (by omega), List.getElem?_eq_getElem hk]; rfl

end structural

section travel
variable {α : Type} [Add α] [Sub α] [Mul α]

/-- the list of leg sizes `size_k = ‖p_{k-1} − p_k‖`, `k = 1 … n-1` -/
def legSizes (t : Trig α) (ray : List (Node α)) : List α :=
  List.zipWith (fun a b => norm2 t (vsub a.p b.p)) ray ray.tail

@[simp] theorem legSizes_cons_cons (t : Trig α) (a b : Node α) (rest : List (Node α)) :
    legSizes t (a :: b :: rest) = norm2 t (vsub a.p b.p) :: legSizes t (b :: rest) := rfl

@[simp] theorem legSizes_length (t : Trig α) (ray : List (Node α)) : (legSizes t ray).length = ray.length - 1 := by
  simp [legSizes]

variable [Div α]

/-- the accumulation loop of `travelTime` in closed form: `size_k / v_k` folded onto `acc` from the left, defined when
there is one velocity per remaining leg; `travelTime_eq` is its first call -/
theorem go_eq (t : Trig α) (prev : Node α) (rest : List (Node α)) (vs : List α) (acc : α) :
    travelTime.go t prev rest vs acc =
      if vs.length = rest.length then
        some ((List.zipWith (fun s v => s / v) (legSizes t (prev :: rest)) vs).foldl (· + ·) acc)
      else none := by
  induction rest generalizing prev vs acc with
  | nil => cases vs <;> simp [travelTime.go, legSizes]
  | cons nd rest ih => cases vs <;> simp [travelTime.go, ih]

/-- travel time is the sum of `size_k / v_k` added from the left, starting with the first summand; it is defined when
    there is one velocity per leg and at least one leg -/
theorem travelTime_eq (t : Trig α) (ray : List (Node α)) (vels : List α) :
    travelTime t ray vels =
      if vels.length + 1 = ray.length then
        (List.zipWith (fun s v => s / v) (legSizes t ray) vels).head?.map
          fun x => (List.zipWith (fun s v => s / v) (legSizes t ray) vels).tail.foldl (· + ·) x
      else none := by
  match ray, vels with
  | [], _ => simp [travelTime]
  | [a], _ => simp [travelTime, legSizes]
  | a :: b :: rest, [] => simp [travelTime]
  | a :: b :: rest, v :: vs => simp [travelTime, go_eq]

theorem travelTime_isSome_iff (t : Trig α) (ray : List (Node α)) (vels : List α) :
    (travelTime t ray vels).isSome ↔ 2 ≤ ray.length ∧ vels.length + 1 = ray.length := by
  rw [travelTime_eq]
  split_ifs with h
  · rw [Option.isSome_map, List.isSome_head?, ← List.length_pos_iff, List.length_zipWith, legSizes_length]
    omega
  · simp [h]

end travel

section travelLegs
variable {α : Type} [Add α] [Sub α] [Mul α] [Div α] [Neg α] [LT α] [DecidableLT α] [LE α] [DecidableLE α]

/-- the sizes summed by `travelTime` are the reported sizes of the incoming legs -/
theorem legSizes_getElem? (t : Trig α) (ray : List (Node α)) (k : Nat) :
    (legSizes t ray)[k]? = (incLeg t ray (k + 1)).map (·.size) := by
  rw [incLeg_succ, legSizes, List.getElem?_zipWith, List.getElem?_tail]
  cases ray[k]? <;> cases ray[k + 1]? <;> rfl

end travelLegs

section travelSum
variable {K : Type} [AddMonoid K] [Sub K] [Mul K] [Div K]

theorem travelTime_eq_list_sum (t : Trig K) (ray : List (Node K)) (vels : List K)
    (h2 : 2 ≤ ray.length) (hv : vels.length + 1 = ray.length) :
    travelTime t ray vels = some (List.zipWith (fun s v => s / v) (legSizes t ray) vels).sum := by
  rw [travelTime_eq, if_pos hv]
  cases hl : List.zipWith (fun s v => s / v) (legSizes t ray) vels with
  | nil =>
    have := congrArg List.length hl
    rw [List.length_zipWith, legSizes_length, List.length_nil] at this; omega
  | cons x xs => rw [List.head?_cons, List.tail_cons, Option.map_some, foldl_add_eq, List.sum_cons]

end travelSum

section real

/-- the external routines over `ℝ`; `atan2 y x` is the argument of `x + iy` -/
noncomputable def tR : Trig ℝ :=
  { sqrt := Real.sqrt, acos := Real.arccos, atan2 := fun y x => Complex.arg ⟨x, y⟩, pi := Real.pi, two := 2 }

theorem legAt_signed (here : Node ℝ) (other : P3 ℝ) (side : Option Bool) :
    (legAt tR here other side).signed =
      signedLegAngle tR (legAt tR here other side).polar (legAt tR here other side).azimuth := rfl

/-- the unsigned (polar) angle lies in `[0, π]` -/
theorem unsigned_range (here : Node ℝ) (other : P3 ℝ) (side : Option Bool) :
    0 ≤ (legAt tR here other side).polar ∧ (legAt tR here other side).polar ≤ Real.pi :=
  ⟨Real.arccos_nonneg _, Real.arccos_le_pi _⟩

theorem azimuth_range (here : Node ℝ) (other : P3 ℝ) (side : Option Bool) :
    -Real.pi < (legAt tR here other side).azimuth ∧ (legAt tR here other side).azimuth ≤ Real.pi :=
  ⟨Complex.neg_pi_lt_arg _, Complex.arg_le_pi _⟩

/-- the conventional angle lies in `[0, π]` as well -/
theorem conventional_range (here : Node ℝ) (other : P3 ℝ) (side : Bool) :
    ∃ c, (legAt tR here other (some side)).conventional = some c ∧
      c = (if side then (legAt tR here other (some side)).polar
            else Real.pi - (legAt tR here other (some side)).polar) ∧
      0 ≤ c ∧ c ≤ Real.pi := by
  obtain ⟨h0, h1⟩ := unsigned_range here other (some side)
  refine ⟨_, rfl, rfl, ?_⟩
  cases side
  · exact ⟨sub_nonneg.mpr h1, sub_le_self _ h0⟩
  · exact ⟨h0, h1⟩

theorem signedLegAngle_tR (p az : ℝ) :
    signedLegAngle tR p az = if -(Real.pi / 2) < az ∧ az ≤ Real.pi / 2 then p else -p := rfl

theorem abs_signedLegAngle (p az : ℝ) : |signedLegAngle tR p az| = |p| := by
  rw [signedLegAngle_tR]; split_ifs <;> simp

theorem signedLegAngle_eq_self_iff (p az : ℝ) :
    signedLegAngle tR p az = p ↔ (-(Real.pi / 2) < az ∧ az ≤ Real.pi / 2) ∨ p = 0 := by
  rw [signedLegAngle_tR]; split_ifs with h <;> simp [h, CharZero.neg_eq_self_iff]

theorem signedLegAngle_eq_neg_iff (p az : ℝ) :
    signedLegAngle tR p az = -p ↔ ¬ (-(Real.pi / 2) < az ∧ az ≤ Real.pi / 2) ∨ p = 0 := by
  rw [signedLegAngle_tR]; split_ifs with h <;> simp [h, CharZero.eq_neg_self_iff]

theorem signed_abs_eq (here : Node ℝ) (other : P3 ℝ) (side : Option Bool) :
    |(legAt tR here other side).signed| = (legAt tR here other side).polar :=
  (abs_signedLegAngle _ _).trans (abs_of_nonneg (unsigned_range here other side).1)

/-- the signed angle has the magnitude of the polar angle, and its sign is `+` exactly inside the azimuth window
    (or the angle is zero) -/
theorem signed_abs (here : Node ℝ) (other : P3 ℝ) (side : Option Bool) :
    |(legAt tR here other side).signed| = (legAt tR here other side).polar ∧
    ((legAt tR here other side).signed = (legAt tR here other side).polar ↔
      (-(Real.pi / 2) < (legAt tR here other side).azimuth ∧ (legAt tR here other side).azimuth ≤ Real.pi / 2)
        ∨ (legAt tR here other side).polar = 0) :=
  ⟨signed_abs_eq here other side, signedLegAngle_eq_self_iff _ _⟩

theorem signed_range (here : Node ℝ) (other : P3 ℝ) (side : Option Bool) :
    -Real.pi ≤ (legAt tR here other side).signed ∧ (legAt tR here other side).signed ≤ Real.pi :=
  abs_le.mp ((signed_abs_eq here other side).trans_le (unsigned_range here other side).2)

theorem signed_eq_neg_polar_iff (here : Node ℝ) (other : P3 ℝ) (side : Option Bool) :
    (legAt tR here other side).signed = -(legAt tR here other side).polar ↔
      ¬ (-(Real.pi / 2) < (legAt tR here other side).azimuth ∧ (legAt tR here other side).azimuth ≤ Real.pi / 2)
        ∨ (legAt tR here other side).polar = 0 :=
  signedLegAngle_eq_neg_iff _ _

/-- the leg size performs the operations of `_distance_pairwise` (`dist3`), in the same order -/
theorem leg_size_eq_dist3 (here : Node ℝ) (other : P3 ℝ) (side : Option Bool) :
    (legAt tR here other side).size = dist3 Real.sqrt other here.p := rfl

theorem leg_size_eq_dist (here : Node ℝ) (other : P3 ℝ) (side : Option Bool) :
    (legAt tR here other side).size =
      Real.sqrt ((other.x - here.p.x) ^ 2 + (other.y - here.p.y) ^ 2 + (other.z - here.p.z) ^ 2) :=
  (leg_size_eq_dist3 here other side).trans (Arim.C17.dist3_sqrt_eq other here.p)

/-- a leg has the same length seen from either of its two ends (outgoing leg at `k` = incoming leg at `k+1`) -/
theorem leg_size_symm (a b : Node ℝ) (s s' : Option Bool) :
    (legAt tR a b.p s).size = (legAt tR b a.p s').size :=
  (leg_size_eq_dist3 a b.p s).trans <| (Arim.C17.dist3_comm b.p a.p).trans (leg_size_eq_dist3 b a.p s').symm

theorem norm2_eq_sqrt_nsq (v : P3 ℝ) : norm2 tR v = Real.sqrt (Arim.C17.nsq v) := rfl

/-- the leg length measured in the local frame is the leg size: the frame is an isometry when its columns are
    orthonormal -/
theorem radius_eq_size_of_cols (here : Node ℝ) (other : P3 ℝ) (side : Option Bool)
    (h' : Arim.C17.Orthonormal here.frame.transpose) :
    (legAt tR here other side).radius = (legAt tR here other side).size := by
  show norm2 tR (fromGcs other here.frame here.p) = norm2 tR (vsub other here.p)
  rw [norm2_eq_sqrt_nsq, norm2_eq_sqrt_nsq, fromGcs, Arim.C17.nsq_mulVec _ _ h']

theorem radius_eq_size (here : Node ℝ) (other : P3 ℝ) (side : Option Bool)
    (h : Arim.C17.Orthonormal here.frame) :
    (legAt tR here other side).radius = (legAt tR here other side).size :=
  radius_eq_size_of_cols here other side (Arim.C17.orthonormal_transpose _ h)

theorem arg_window_iff (x y : ℝ) :
    (-(Real.pi / 2) < Complex.arg ⟨x, y⟩ ∧ Complex.arg ⟨x, y⟩ ≤ Real.pi / 2) ↔ (0 < x ∨ (x = 0 ∧ 0 ≤ y)) := by
  rw [Complex.neg_pi_div_two_lt_arg_iff, Complex.arg_le_pi_div_two_iff]
  show (0 < x ∨ 0 ≤ y) ∧ (0 ≤ x ∨ y < 0) ↔ 0 < x ∨ (x = 0 ∧ 0 ≤ y)
  rcases lt_trichotomy 0 x with h | h | h
  · exact iff_of_true ⟨.inl h, .inl h.le⟩ (.inl h)
  · subst h
    simp only [lt_irrefl, false_or, le_refl, true_or, and_true, true_and]
  · simp only [h.not_gt, h.not_ge, h.ne, false_or, false_and, or_false]
    exact iff_false_intro fun ⟨h1, h2⟩ => h2.not_ge h1

/-- the documented reading of the azimuth window: the azimuth lies in `(−π/2, π/2]` exactly when the
    other end of the leg has local `x > 0`, or `x = 0` and `y ≥ 0` -/
theorem azimuth_window_iff (here : Node ℝ) (other : P3 ℝ) (side : Option Bool) :
    (-(Real.pi / 2) < (legAt tR here other side).azimuth ∧ (legAt tR here other side).azimuth ≤ Real.pi / 2) ↔
      (0 < (legAt tR here other side).cart.x ∨
        ((legAt tR here other side).cart.x = 0 ∧ 0 ≤ (legAt tR here other side).cart.y)) :=
  arg_window_iff _ _

/-! ### The angles do not depend on the unit of length

The same inspection drawn at another scale (every point multiplied by `s > 0`, frames unchanged): leg lengths are multiplied
by `s`; the unsigned, signed and conventional angles and the azimuth are unchanged (the check's scale-invariance oracle). -/

def scaleP (s : ℝ) (v : P3 ℝ) : P3 ℝ := ⟨s * v.x, s * v.y, s * v.z⟩

theorem fromGcs_scale (s : ℝ) (o p : P3 ℝ) (b : M3 ℝ) :
    fromGcs (scaleP s o) b (scaleP s p) = scaleP s (fromGcs o b p) := by
  simp only [fromGcs, scaleP, C17.vsub_scale, C17.mulVec_scale]

theorem norm2_scale (s : ℝ) (hs : 0 ≤ s) (v : P3 ℝ) : norm2 tR (scaleP s v) = s * norm2 tR v := by
  simp only [norm2, tR, scaleP, mul_mul_mul_comm s _ s, ← mul_add]
  rw [Real.sqrt_mul (mul_self_nonneg s), Real.sqrt_mul_self hs]

theorem arg_scale (s : ℝ) (hs : 0 < s) (x y : ℝ) : Complex.arg ⟨s * x, s * y⟩ = Complex.arg ⟨x, y⟩ := by
  rw [← Complex.arg_real_mul ⟨x, y⟩ hs]; congr 1; apply Complex.ext <;> simp

theorem legAt_scale (s : ℝ) (hs : 0 < s) (here : Node ℝ) (other : P3 ℝ) (side : Option Bool) :
    (legAt tR { here with p := scaleP s here.p } (scaleP s other) side).polar = (legAt tR here other side).polar ∧
    (legAt tR { here with p := scaleP s here.p } (scaleP s other) side).azimuth = (legAt tR here other side).azimuth ∧
    (legAt tR { here with p := scaleP s here.p } (scaleP s other) side).signed = (legAt tR here other side).signed ∧
    (legAt tR { here with p := scaleP s here.p } (scaleP s other) side).conventional = (legAt tR here other side).conventional ∧
    (legAt tR { here with p := scaleP s here.p } (scaleP s other) side).size = s * (legAt tR here other side).size := by
  have hpol : (legAt tR { here with p := scaleP s here.p } (scaleP s other) side).polar = (legAt tR here other side).polar := by
    simp only [legAt, fromGcs_scale, norm2_scale s hs.le]
    show Real.arccos (s * _ / (s * _)) = Real.arccos _
    rw [mul_div_mul_left _ _ hs.ne']
  have haz : (legAt tR { here with p := scaleP s here.p } (scaleP s other) side).azimuth = (legAt tR here other side).azimuth := by
    simp only [legAt, fromGcs_scale]
    exact arg_scale s hs _ _
  refine ⟨hpol, haz, ?_, ?_, ?_⟩
  · rw [legAt_signed, legAt_signed, hpol, haz]
  · rw [legAt_conventional, legAt_conventional, hpol]
  · exact (congrArg (norm2 tR) (C17.vsub_scale s other here.p)).trans (norm2_scale s hs.le _)

end real

section examples

/-- dummy external routines over `ℚ` (structure theorems do not look inside them) -/
def tQ : Trig ℚ := { sqrt := id, acos := id, atan2 := fun y x => y - x, pi := 3, two := 2 }

def idFrame : M3 ℚ := ⟨⟨1, 0, 0⟩, ⟨0, 1, 0⟩, ⟨0, 0, 1⟩⟩
/-- a three-interface ray with all the kinds of flags -/
def ray3 : List (Node ℚ) :=
  [⟨⟨0, 0, 0⟩, idFrame, none, some true⟩, ⟨⟨1, 0, 0⟩, idFrame, some false, some true⟩,
   ⟨⟨1, 2, 0⟩, idFrame, some true, none⟩]

example : incLeg tQ ray3 1 = outLeg tQ (RayGeom.reverseRay ray3) 1 := inc_eq_out_reversed tQ ray3 1 (by decide)
example : incLeg tQ ray3 2 = outLeg tQ (RayGeom.reverseRay ray3) 0 := inc_eq_out_reversed tQ ray3 2 (by decide)
example : outLeg tQ ray3 0 = incLeg tQ (RayGeom.reverseRay ray3) 2 := out_eq_inc_reversed tQ ray3 0 (by decide)
example : (incLeg tQ ray3 1).isSome ∧ (incLeg tQ ray3 2).isSome ∧ (outLeg tQ ray3 0).isSome ∧ (outLeg tQ ray3 1).isSome :=
  ⟨(inc_isSome_iff _ _ _).2 (by decide), (inc_isSome_iff _ _ _).2 (by decide),
   (out_isSome_iff _ _ _).2 (by decide), (out_isSome_iff _ _ _).2 (by decide)⟩
/-- the incoming leg at interface 2: size `0+4+0 = 4` (dummy `sqrt = id`), conventional angle declared -/
example : (incLeg tQ ray3 2).map (·.size) = some 4 := by
  decide +kernel
example : (incLeg tQ ray3 2).map (·.cart) = some ⟨0, -2, 0⟩ := by
  decide +kernel
/-- undeclared side at the last interface's outgoing flag, seen as the incoming flag of the reversed ray -/
example : (incLeg tQ (RayGeom.reverseRay ray3) 0) = none := first_has_no_inc _ _
example : (outLeg tQ (RayGeom.reverseRay ray3) 1).map (·.conventional) = some (some (3 - (0 / 1))) := by
  decide +kernel
/-- travel time of `ray3` with velocities `1, 2`: `1/1 + 4/2 = 3` (dummy `sqrt = id`) -/
example : travelTime tQ ray3 [1, 2] = some 3 := by
  decide +kernel
example : travelTime tQ ray3 [1] = none := by
  decide +kernel

/-- a real 3-4-5 leg seen from the origin in a frame rotated by the 3-4-5 rotation about z -/
noncomputable def hereR : Node ℝ :=
  ⟨⟨0, 0, 0⟩, ⟨⟨3/5, -(4/5), 0⟩, ⟨4/5, 3/5, 0⟩, ⟨0, 0, 1⟩⟩, some true, some false⟩

theorem hereR_orthonormal : Arim.C17.Orthonormal hereR.frame :=
  C17.rotZ_orthonormal (3/5) (4/5) (by norm_num)

example : (legAt tR hereR ⟨3, 4, 0⟩ none).size = 5 := by
  rw [leg_size_eq_dist]
  have : ((3 : ℝ) - hereR.p.x) ^ 2 + (4 - hereR.p.y) ^ 2 + (0 - hereR.p.z) ^ 2 = 5 ^ 2 := by
    simp only [hereR]; norm_num
  rw [this, Real.sqrt_sq (by norm_num)]
example : (legAt tR hereR ⟨3, 4, 0⟩ none).radius = (legAt tR hereR ⟨3, 4, 0⟩ none).size :=
  radius_eq_size hereR _ _ hereR_orthonormal

end examples

/-! ## The signed-angle rule of the code as translated on this run

`Src.signed_leg_angle` (file `Generated/SrcC05.lean`) is the translation of `arim.ray._signed_leg_angle` made from
`/repo/src` on every run; `Tie.C05.tie_signed_leg_angle` identifies it with the model's `signedLegAngle`. -/
section OnSource
open Arim.Tie.C05

/-- the routines of the translated code at `K = ℝ`; `signed_leg_angle` calls only `pi` and `ofNat` (`Tie.C05.trig` also
reads `sqrt`).  The other fields are placeholders never called here: Mathlib's `round` rounds ties up where Python's
rounds them to even, `⌊x⌋` is not `int(x)` for negative `x`, `id` is not `numpy.sinc`. -/
noncomputable def srcOps : Src.Ops ℝ :=
  { sin := Real.sin, cos := Real.cos, asin := Real.arcsin, sqrt := Real.sqrt, exp := Real.exp, sinc := id,
    pi := Real.pi, ofNat := fun n => (n : ℝ), ofInt := fun z => (z : ℝ),
    floor := fun x => ⌊x⌋, round := fun x => round x, trunc := fun x => ⌊x⌋ }

theorem trig_srcOps : trig srcOps Real.arccos (fun y x => Complex.arg ⟨x, y⟩) = tR := by
  simp only [trig, srcOps, tR, Nat.cast_ofNat]

/-- the translated code follows the documented rule: `+θ` when the azimuth lies in `(−π/2, π/2]`, `−θ` otherwise -/
theorem src_signed_rule (polar az : ℝ) :
    Src.signed_leg_angle srcOps polar az = if (-(Real.pi / 2) < az ∧ az ≤ Real.pi / 2) then polar else -polar := by
  rw [tie_signed_leg_angle srcOps Real.arccos (fun y x => Complex.arg ⟨x, y⟩), trig_srcOps]
  exact signedLegAngle_tR polar az

/-- the boundary azimuths: `+π/2` keeps the sign, `−π/2` flips it (translated code) -/
theorem src_signed_boundary (polar : ℝ) :
    Src.signed_leg_angle srcOps polar (Real.pi / 2) = polar ∧ Src.signed_leg_angle srcOps polar (-(Real.pi / 2)) = -polar := by
  constructor
  · rw [src_signed_rule, if_pos ⟨neg_lt_self (half_pos Real.pi_pos), le_rfl⟩]
  · rw [src_signed_rule, if_neg fun h => lt_irrefl _ h.1]

end OnSource

end Arim.C05
