import ArimModel.TimeDomain
import ArimProofs.Lemmas.TimeDomain
import ArimProofs.Tie.C11
import ArimProofs.C10
import Mathlib.Tactic.Ring
import Mathlib.Tactic.NormNum
import Mathlib.Algebra.Order.Floor.Ring
import Mathlib.Data.Rat.Floor
/-! # C11 — time-domain synthesis places each echo at its delay with the right waveform

The equations of the model's definitions over `ℝ`, with pairs read as complex numbers, are in `Lemmas/TimeDomain.lean`;
the discrete Fourier transform is that of `Lemmas/Dft.lean` (namespace `C10`), with the shift theorem `C10.idft_shift`
from `C10.lean`; the tie of the delay split to the translated code is `Tie/C11.lean`. -/
namespace Arim.C11
open Arim.TD Arim.TDLemmas
open scoped Real

/-- the split of a delay is exact for every integer quotient, in particular for `q = ⌊delay/dt⌋`, the number of whole
samples -/
theorem split_exact {K : Type} [CommRing K] (delay dt : K) (q : Int) :
    (q : K) * dt + (delay - (q : K) * dt) = delay := by ring

/-- with `q = ⌊delay/dt⌋` the remainder lies in `[0, dt)` -/
theorem split_remainder_range {K : Type} [Field K] [LinearOrder K] [IsStrictOrderedRing K] [FloorRing K]
    (delay dt : K) (hdt : 0 < dt) :
    0 ≤ delay - ((⌊delay / dt⌋ : Int) : K) * dt ∧ delay - ((⌊delay / dt⌋ : Int) : K) * dt < dt :=
  ⟨Int.sub_floor_div_mul_nonneg delay hdt, Int.sub_floor_div_mul_lt delay hdt⟩

theorem splitDelay_spec (delay dt : ℝ) (hdt : 0 < dt) :
    delay = ((splitDelay tR delay dt).1 : ℝ) * dt + (splitDelay tR delay dt).2 ∧
      0 ≤ (splitDelay tR delay dt).2 ∧ (splitDelay tR delay dt).2 < dt :=
  ⟨(split_exact delay dt _).symm, split_remainder_range delay dt hdt⟩

/-- counter-witness for the code before the fix of finding F4: on the exact rational value `d` of the double `0.1`, eight
time units contain 79 whole steps and a remainder `8 − 79 d`; pairing that remainder (what `delay % dt` returns) with the
quotient `80` (what `floor(fl(8.0/0.1))` returns in double arithmetic, `float_quotient_is_80`) does not decompose the
delay: `80 d + (8 − 79 d) ≠ 8` -/
theorem split_mod_counter :
    let d : Rat := 3602879701896397 / 36028797018963968   -- the double 0.1
    Rat.floor (8 / d) = 79 ∧ (80 : Rat) * d + (8 - 79 * d) ≠ 8 := by
  refine ⟨by decide +kernel, by norm_num⟩

/-- in double arithmetic `8.0 / 0.1` is exactly `80.0` -/
theorem float_quotient_is_80 : ((8.0 : Float) / 0.1).toBits = (80.0 : Float).toBits := by decide +kernel

section shape
variable {K : Type}

theorem lenPulse_ge [Div K] (t : RT K) (cycles : ℕ) (f dt : K) :
    (t.ceil (t.ofNat cycles / f / dt)).toNat ≤ lenPulse t cycles f dt :=
  (lenPulse_spec t cycles f dt).2.1

theorem lenPulse_le [Div K] (t : RT K) (cycles : ℕ) (f dt : K) :
    lenPulse t cycles f dt ≤ (t.ceil (t.ofNat cycles / f / dt)).toNat + 1 :=
  (lenPulse_spec t cycles f dt).2.2

theorem lenPulse_pos [Div K] (t : RT K) (cycles : ℕ) (f dt : K) :
    1 ≤ lenPulse t cycles f dt := by
  have := lenPulse_odd t cycles f dt
  omega
end shape

/-- the window vanishes at both ends (for `m ≥ 2`; `np.hanning(1) = [1]`) -/
theorem hann_ends (m : ℕ) (hm : 2 ≤ m) : hann tR m 0 = 0 ∧ hann tR m (m - 1) = 0 := by
  have h0 : hann tR m 0 = 0 := by
    rw [hann_eq m _ hm]; simp
  exact ⟨h0, by rw [← h0, hann_symm m 0 (by omega), Nat.sub_zero]⟩

/-- the toneburst is symmetric about its centre sample: the real part (the real toneburst) is even, the imaginary part is
odd -/
theorem toneburst_symmetric (cycles : ℕ) (f dt : ℝ) (k : ℕ) (hk : k < lenPulse tR cycles f dt) :
    (pulse tR cycles f dt (lenPulse tR cycles f dt - 1 - k)).1 = (pulse tR cycles f dt k).1 ∧
    (pulse tR cycles f dt (lenPulse tR cycles f dt - 1 - k)).2 = -(pulse tR cycles f dt k).2 := by
  have hodd := lenPulse_odd tR cycles f dt
  rw [pulse_eq, pulse_eq]
  generalize lenPulse tR cycles f dt = l at hk hodd ⊢
  have e : ((l - 1 - k : ℕ) : ℝ) - ((l / 2 : ℕ) : ℝ) = -((k : ℝ) - ((l / 2 : ℕ) : ℝ)) := by
    have e0 : (l : ℝ) = 2 * ((l / 2 : ℕ) : ℝ) + 1 := by
      exact_mod_cast (Nat.two_mul_div_two_add_one_of_odd (Nat.odd_iff.2 hodd)).symm
    rw [Nat.cast_sub (Nat.le_sub_one_of_lt hk), Nat.cast_sub (Nat.one_le_of_lt hk), Nat.cast_one]
    linear_combination e0
  rw [e, ← hann_symm l k hk, mul_neg, Real.cos_neg, Real.sin_neg, mul_neg]
  exact ⟨rfl, rfl⟩

/-- modulus of the analytic pulse is the window -/
theorem pulse_abs (cycles : ℕ) (f dt : ℝ) (k : ℕ) :
    ‖toC (pulse tR cycles f dt k)‖ = hann tR (lenPulse tR cycles f dt) k := by
  unfold pulse
  rw [toC_csmul, toC_cis, norm_mul, Complex.norm_exp_ofReal_mul_I, mul_one, Complex.norm_real,
    Real.norm_of_nonneg (hann_range _ k).1]

/-- the centre sample is exactly one (`cos 0 = 1`, `sin 0 = 0`, window `= 1`): the pulse is centred on its time zero with
unit peak; and the real toneburst is nowhere larger, its modulus being the window -/
theorem toneburst_peak (cycles : ℕ) (f dt : ℝ) :
    pulse tR cycles f dt (lenPulse tR cycles f dt / 2) = (1, 0) ∧
    ∀ k, |(pulse tR cycles f dt k).1| ≤ 1 := by
  refine ⟨?_, fun k => (Complex.abs_re_le_norm (toC _)).trans
    ((pulse_abs cycles f dt k).trans_le (hann_range _ k).2)⟩
  rw [pulse_eq, hann_centre _ (lenPulse_odd tR cycles f dt)]
  simp

section tb
variable {K : Type} [Sub K] [Mul K] [Div K]

/-- without wrapping, the first `lenPulse` samples are the pulse and everything after is zero -/
theorem toneburst_support (t : RT K) (zero : K) (cycles : ℕ) (f dt : K) (N k : ℕ) (hk : k < N) :
    (toneburst t zero cycles f dt N false)[k]'(by rw [toneburst_length]; exact hk)
      = if k < lenPulse t cycles f dt then pulse t cycles f dt k else (zero, zero) := by
  simp [toneburst]

/-- with `wrap = true` time zero is at index 0: entry `0` is the centre sample of the pulse -/
theorem toneburst_wrap_zero (t : RT K) (zero : K) (cycles : ℕ) (f dt : K) (N : ℕ)
    (hl : lenPulse t cycles f dt ≤ N) :
    (toneburst t zero cycles f dt N true)[0]'(by
        rw [toneburst_length]; have := lenPulse_odd t cycles f dt; omega)
      = pulse t cycles f dt (lenPulse t cycles f dt / 2) := by
  have hh := half_lt_lenPulse t cycles f dt
  have hlt : lenPulse t cycles f dt / 2 < N := hh.trans_le hl
  rw [toneburst_wrap_entry t zero cycles f dt N 0 (Nat.zero_lt_of_lt hlt) hlt.le]
  simp only [Nat.zero_add]
  rw [toneburst_support t zero cycles f dt N _ (Nat.mod_lt _ (Nat.zero_lt_of_lt hlt)), Nat.mod_eq_of_lt hlt,
    if_pos hh]
end tb

/-- the time-zero index of `make_toneburst2` is the centre of the pulse placed after `nb·l` zeros:
it lies strictly inside the pulse, with `l/2` pulse samples on either side -/
theorem t0_idx_centre {K : Type} [Div K] (t : RT K) (cycles : ℕ) (f dt : K) (nb na : ℕ) :
    (toneburst2Layout t cycles f dt nb na).2 = nb * lenPulse t cycles f dt + lenPulse t cycles f dt / 2 ∧
    (toneburst2Layout t cycles f dt nb na).2 - nb * lenPulse t cycles f dt
      = nb * lenPulse t cycles f dt + lenPulse t cycles f dt - 1 - (toneburst2Layout t cycles f dt nb na).2 ∧
    (toneburst2Layout t cycles f dt nb na).2 < (toneburst2Layout t cycles f dt nb na).1 := by
  have hodd := lenPulse_odd t cycles f dt
  rw [toneburst2_layout]
  refine ⟨rfl, ?_, ?_⟩
  · simp only; omega
  · simp only; omega

section spectral
open Complex Finset
open scoped ComplexConjugate

/-- the analytic-signal weights: `1` at DC, `2` on the positive-frequency bins, `1` at the Nyquist bin of an even length,
`0` on the negative-frequency bins -/
theorem hilbertWeight_spec (n : ℕ) (hn : 1 ≤ n) :
    hilbertWeight n 0 = 1 ∧
    (∀ k, 0 < k → 2 * k < n → hilbertWeight n k = 2) ∧
    (∀ k, 2 * k = n → hilbertWeight n k = 1) ∧
    (∀ k, n < 2 * k → hilbertWeight n k = 0) := by
  refine ⟨?_, fun k h0 hk => ?_, fun k hk => ?_, fun k hk => ?_⟩
  · rw [hilbertWeight_eq, if_pos (Or.inl rfl)]
  · rw [hilbertWeight_eq, if_neg (by omega), if_pos hk]
  · rw [hilbertWeight_eq, if_pos (Or.inr hk)]
  · rw [hilbertWeight_eq, if_neg (by omega), if_neg (by omega)]

/-- the "sign" sequence: `+1` on the positive-frequency bins, `−1` on the negative-frequency
bins, `0` at DC and Nyquist -/
def sgnSeq (n k : ℕ) : ℤ := if k = 0 ∨ 2 * k = n then 0 else if 2 * k < n then 1 else -1

theorem hilbertWeight_eq_one_add_sgn (n k : ℕ) :
    (hilbertWeight n k : ℤ) = 1 + sgnSeq n k := by
  rw [hilbertWeight_eq, sgnSeq]
  split_ifs <;> rfl

theorem sgnSeq_eq_sign (n k : ℕ) (h0 : 0 < k) : sgnSeq n k = Int.sign ((n : ℤ) - 2 * k) := by
  unfold sgnSeq
  split_ifs
  · rw [show (n : ℤ) - 2 * k = 0 by omega, Int.sign_zero]
  · rw [Int.sign_eq_one_of_pos (by omega)]
  · rw [Int.sign_eq_neg_one_of_neg (by omega)]

theorem sgnSeq_reflect (n k : ℕ) (h0 : 0 < k) (hk : k < n) : sgnSeq n (n - k) = -sgnSeq n k := by
  rw [sgnSeq_eq_sign n _ (by omega), sgnSeq_eq_sign n k h0, ← Int.sign_neg]
  congr 1
  omega

/-- term `k` of the back-transform of the sign-weighted spectrum -/
noncomputable def sgnTerm (x : ℕ → ℝ) (n : ℕ) (j : ℤ) (k : ℕ) : ℂ :=
  (sgnSeq n k : ℂ) * C10.dft (fun l => (x l : ℂ)) n k * C10.rootPow n (j * k)

theorem sgnTerm_conj (x : ℕ → ℝ) (n : ℕ) (j : ℤ) (k : ℕ) (h0 : 0 < k) (hk : k < n) :
    conj (sgnTerm x n j k) = -sgnTerm x n j (n - k) := by
  unfold sgnTerm
  rw [map_mul, map_mul, C10.dft_real_conj x n k hk.le, sgnSeq_reflect n k h0 hk, C10.rootPow_conj,
    C10.rootPow_congr (by omega : n ≠ 0) (a := -(j * k)) (b := j * (n - k : ℕ)) ⟨-j, by rw [Nat.cast_sub hk.le]; ring⟩]
  simp only [map_intCast, Int.cast_neg]
  ring

/-- the analytic signal reproduces the signal in its real part.  `hilbertWeight n = 1 + sgnSeq n`; the `1` part is `x` by
DFT inversion, the `sgnSeq` part is purely imaginary because its terms pair off (`sgnTerm_conj`). -/
theorem hilbert_real_part (x : ℕ → ℝ) (n j : ℕ) (hj : j < n) :
    (C10.idft (fun k => (hilbertWeight n k : ℂ) * C10.dft (fun l => (x l : ℂ)) n k) n j).re = x j := by
  have split : C10.idft (fun k => (hilbertWeight n k : ℂ) * C10.dft (fun l => (x l : ℂ)) n k) n j
      = C10.idft (C10.dft (fun l => (x l : ℂ)) n) n j
        + (n : ℂ)⁻¹ * ∑ k ∈ range n, sgnTerm x n j k := by
    rw [C10.idft_eq, C10.idft_eq, ← mul_add, ← sum_add_distrib]
    congr 1
    refine sum_congr rfl fun k _ => ?_
    rw [sgnTerm, ← Int.cast_natCast (R := ℂ) (hilbertWeight n k), hilbertWeight_eq_one_add_sgn, Int.cast_add,
      Int.cast_one]
    ring
  rw [split, C10.idft_comp_dft _ n j hj, add_re, ofReal_re, ← ofReal_natCast, ← ofReal_inv, re_ofReal_mul,
    C10.sum_re_eq_zero_of_conj_reflect _ n (by simp [sgnTerm, sgnSeq]) (sgnTerm_conj x n j), mul_zero, add_zero]

/-- the analytic signal computed by the model reproduces the signal in its real part: if `xf` holds the bins `0 … ⌊n/2⌋` of
the DFT of a real signal `x` of length `n` (what `rfft` returns), the real part of sample `j` of `rfftToHilbert` is `x j` -/
theorem rfftToHilbert_real_part (x : ℕ → ℝ) (xf : List (Cx ℝ)) (n j : ℕ) (hj : j < n)
    (hxf : ∀ k, 2 * k ≤ n → toC (xf.getD k (0, 0)) = C10.dft (fun l => (x l : ℂ)) n k) :
    ((rfftToHilbert tR 0 xf n)[j]'(by rw [rfftToHilbert_length]; exact hj)).1 = x j := by
  rw [← toC_re, toC_rfftToHilbert xf n j hj, ← hilbert_real_part x n j hj]
  congr 1
  refine C10.idft_congr (fun k _ => ?_) _
  rcases Nat.lt_or_ge n (2 * k) with h | h
  · rw [(hilbertWeight_spec n (by omega)).2.2.2 k h]; simp
  · rw [hxf k h]

/-- the bin weights `w` are arbitrary, so that this covers the plain back-transform (`w = 1`, `shift_theorem_idft`) and the
analytic signal (`w = hilbertWeight n`, `hilbert_shift`) -/
theorem idft_timeshift (w : ℕ → ℂ) (X : List (Cx ℝ)) (freqs : List ℝ) (n : ℕ) (dt : ℝ) (hdt : dt ≠ 0)
    (m : ℤ) (hlen : X.length ≤ freqs.length)
    (hfreq : ∀ k (h : k < freqs.length), freqs[k] = (k : ℝ) / (n * dt)) (j : ℤ) :
    C10.idft (fun k => w k * toC ((timeshift tR X freqs (m * dt)).getD k (0, 0))) n j
      = C10.idft (fun k => w k * toC (X.getD k (0, 0))) n (j - m) := by
  rw [← C10.idft_shift]
  refine C10.idft_congr (fun k _ => ?_) j
  rw [toC_timeshift_grid X freqs n dt hdt m hlen hfreq k]
  exact (mul_assoc _ _ _).symm

/-- the delay in the mathematical back-transform, not yet reduced modulo `n` -/
theorem shift_theorem_idft (X : List (Cx ℝ)) (freqs : List ℝ) (n : ℕ) (dt : ℝ) (hdt : dt ≠ 0)
    (m : ℤ) (hlen : X.length ≤ freqs.length)
    (hfreq : ∀ k (h : k < freqs.length), freqs[k] = (k : ℝ) / (n * dt)) (j : ℕ) :
    toC (idft tR 0 (timeshift tR X freqs (m * dt)) n j)
      = C10.idft (fun k => toC (X.getD k (0, 0))) n ((j : ℤ) - m) := by
  simpa only [toC_idft, one_mul] using idft_timeshift (fun _ => 1) X freqs n dt hdt m hlen hfreq j

/-- the shift theorem for the model: with `f_k = k/(n dt)` and `τ = m dt`, the back-transform of the time-shifted spectrum
at sample `j` is the back-transform of the original spectrum at sample `(j − m) mod n`, a circular shift by `m` samples -/
theorem shift_theorem (X : List (Cx ℝ)) (freqs : List ℝ) (n : ℕ) (hn : n ≠ 0) (dt : ℝ) (hdt : dt ≠ 0)
    (m : ℤ) (hlen : X.length ≤ freqs.length)
    (hfreq : ∀ k (h : k < freqs.length), freqs[k] = (k : ℝ) / (n * dt)) (j : ℕ) :
    idft tR 0 (timeshift tR X freqs (m * dt)) n j
      = idft tR 0 X n ((((j : ℤ) - m) % n).toNat) := by
  apply toC_injective
  rw [shift_theorem_idft X freqs n dt hdt m hlen hfreq j, toC_idft, (C10.emod_toNat n hn _).2,
    C10.idft_emod _ n hn]

/-- if the spectrum is the DFT of a signal `x` of length `n`, the shifted spectrum transforms back to `x` circularly
shifted by `m` samples -/
theorem shift_theorem_signal (x : ℕ → ℂ) (X : List (Cx ℝ)) (freqs : List ℝ) (n : ℕ) (dt : ℝ)
    (hdt : dt ≠ 0) (m : ℤ) (hlen : X.length ≤ freqs.length)
    (hfreq : ∀ k (h : k < freqs.length), freqs[k] = (k : ℝ) / (n * dt))
    (hX : ∀ k, k < n → toC (X.getD k (0, 0)) = C10.dft x n k) (j : ℕ) (hj : j < n) :
    toC (idft tR 0 (timeshift tR X freqs (m * dt)) n j) = x ((((j : ℤ) - m) % n).toNat) := by
  have hn : n ≠ 0 := by omega
  rw [shift_theorem X freqs n hn dt hdt m hlen hfreq j, toC_idft, C10.idft_congr hX]
  exact C10.idft_comp_dft x n _ (C10.emod_toNat n hn _).1

/-- `rfftToHilbert` of the time-shifted half spectrum is the analytic signal of the unshifted one, circularly shifted by
`m` samples -/
theorem hilbert_shift (xf : List (Cx ℝ)) (freqs : List ℝ) (n : ℕ) (dt : ℝ) (hdt : dt ≠ 0)
    (m : ℤ) (hlen : xf.length ≤ freqs.length)
    (hfreq : ∀ k (h : k < freqs.length), freqs[k] = (k : ℝ) / (n * dt)) (j : ℕ) (hj : j < n) :
    (rfftToHilbert tR 0 (timeshift tR xf freqs (m * dt)) n)[j]'(by
        rw [rfftToHilbert_length]; exact hj)
      = (rfftToHilbert tR 0 xf n)[(((j : ℤ) - m) % n).toNat]'(by
        rw [rfftToHilbert_length]
        have hnz : (0 : ℤ) < n := by omega
        have := Int.emod_lt_of_pos ((j : ℤ) - m) hnz
        have := Int.emod_nonneg ((j : ℤ) - m) hnz.ne'
        omega) := by
  have hn : n ≠ 0 := by omega
  obtain ⟨h1, h2⟩ := C10.emod_toNat n hn ((j : ℤ) - m)
  apply toC_injective
  rw [toC_rfftToHilbert _ n j hj, toC_rfftToHilbert _ n _ h1, h2, C10.idft_emod _ n hn]
  exact idft_timeshift _ xf freqs n dt hdt m hlen hfreq j

end spectral

section placement
variable {K : Type} [Add K]

/-- the placement law: a response that fits (`0 ≤ start`, `start + resp.length ≤ out.length`) is added onto the window
sample by sample, its sample `i − start` onto sample `i`, and nothing else changes. The theorems after it say what
happens to a response that does not fit -/
theorem place_spec (out resp : List (Cx K)) (start : ℤ) (h0 : 0 ≤ start)
    (hfit : start + resp.length ≤ out.length) (i : ℕ) (hi : i < out.length) :
    (place out resp start)[i]'(by rw [place_length]; exact hi)
      = if h : start ≤ (i : ℤ) ∧ (i : ℤ) < start + resp.length
        then cadd out[i] (resp[((i : ℤ) - start).toNat]'(by omega)) else out[i] :=
  getElem_place out resp start _ _ (by rw [normIdx_of_nonneg h0, min_eq_left (by omega)])
    (by rw [normIdx_of_nonneg (by omega), min_eq_left hfit]) (by omega) i hi

/-- if the slice starts inside or beyond the array but does not fit, nothing is written (NumPy raises a broadcast error
here; the harness only uses delays that fit) -/
theorem place_out_of_range (out resp : List (Cx K)) (start : ℤ) (h0 : 0 ≤ start)
    (hfit : (out.length : ℤ) < start + resp.length) : place out resp start = out := by
  have hlo : normIdx out.length start = min start out.length := normIdx_of_nonneg h0
  have hhi : normIdx out.length (start + resp.length) = out.length := by
    rw [normIdx_of_nonneg (by omega), min_eq_right hfit.le]
  by_cases h : (out.length : ℤ) - min start out.length = resp.length
  · -- only possible for an empty response placed beyond the end: the slice is empty
    refine List.ext_getElem (place_length ..) fun i _ h2 => ?_
    rw [getElem_place out resp start _ _ hlo hhi h i h2, dif_neg (by omega)]
  · exact place_of_ne out resp start (by rwa [hlo, hhi])

/-- a negative start counts from the end (NumPy slicing): if the whole slice `[start, start + resp.length)` has negative
bounds not below `−out.length`, the response is added at `start + out.length`, silently wrapped round to the end of the
window -/
theorem place_negative_wraps (out resp : List (Cx K)) (start : ℤ)
    (hlo' : -(out.length : ℤ) ≤ start) (hneg : start + resp.length < 0) :
    place out resp start = place out resp (start + out.length) := by
  rw [place_eq, place_eq, add_right_comm, normIdx_add_length hlo' (by omega), normIdx_add_length (by omega) hneg]

/-- a slice straddling index 0 is rejected: `start < 0 ≤ start + resp.length` with a non-empty output gives slice bounds
`start + nOut … start + n`, whose length is not `n` -/
theorem place_straddle (out resp : List (Cx K)) (start : ℤ) (hout : out ≠ [])
    (hlo' : -(out.length : ℤ) ≤ start) (hneg : start < 0) (hpos : 0 ≤ start + resp.length) :
    place out resp start = out := by
  have : 0 < out.length := List.length_pos_iff.2 hout
  refine place_of_ne out resp start ?_
  rw [normIdx_of_neg hneg, normIdx_of_nonneg hpos]
  omega

/-- response sample `m` lands on output sample `start + m` -/
theorem placement_sample (out resp : List (Cx K)) (start : ℤ) (m : ℕ) (h0 : 0 ≤ start)
    (hfit : start + resp.length ≤ out.length) (hm : m < resp.length) :
    (place out resp start)[(start + m).toNat]'(by rw [place_length]; omega)
      = cadd (out[(start + m).toNat]'(by omega)) resp[m] := by
  rw [place_spec out resp start h0 hfit _ (by omega), dif_pos (by omega)]
  congr 2
  omega

/-- the time-zero sample of the toneburst lands on output sample `q` -/
theorem placement_t0 (out resp : List (Cx K)) (q : ℤ) (t0idx : ℕ) (h0 : 0 ≤ q - t0idx)
    (hfit : q - t0idx + resp.length ≤ out.length) (ht0 : t0idx < resp.length) :
    (place out resp (q - t0idx))[q.toNat]'(by rw [place_length]; omega)
      = cadd (out[q.toNat]'(by omega)) resp[t0idx] := by
  simpa only [sub_add_cancel] using placement_sample out resp (q - t0idx) t0idx h0 hfit ht0

end placement

/-- `delay = q·dt` gives `q` whole samples and remainder `0` -/
theorem aligned_exact (q : ℤ) (dt : ℝ) (hdt : 0 < dt) : splitDelay tR (q * dt) dt = (q, 0) := by
  rw [splitDelay_tR, mul_div_cancel_right₀ _ hdt.ne', Int.floor_intCast, sub_self]

/-- split + shift + placement for an aligned delay: for `delay = q·dt` the fractional shift is by `0`, so the response is
the unshifted analytic signal, and placing it at `start = q − t0idx` puts its time-zero sample `t0idx` exactly on output
sample `q` -/
theorem aligned_delay (xf : List (Cx ℝ)) (freqs : List ℝ) (hlen : xf.length ≤ freqs.length)
    (n : ℕ) (q : ℤ) (dt : ℝ) (hdt : 0 < dt) (out : List (Cx ℝ)) (t0idx : ℕ)
    (h0 : 0 ≤ q - t0idx) (hfit : q - t0idx + n ≤ out.length) (ht0 : t0idx < n) :
    rfftToHilbert tR 0 (timeshift tR xf freqs (splitDelay tR (q * dt) dt).2) n
        = rfftToHilbert tR 0 xf n ∧
    ∃ (h1 : q.toNat < (place out (rfftToHilbert tR 0 (timeshift tR xf freqs
              (splitDelay tR (q * dt) dt).2) n) ((splitDelay tR (q * dt) dt).1 - t0idx)).length)
      (h2 : q.toNat < out.length) (h3 : t0idx < (rfftToHilbert tR 0 xf n).length),
      (place out (rfftToHilbert tR 0 (timeshift tR xf freqs (splitDelay tR (q * dt) dt).2) n)
          ((splitDelay tR (q * dt) dt).1 - t0idx))[q.toNat]
        = cadd out[q.toNat] (rfftToHilbert tR 0 xf n)[t0idx] := by
  rw [aligned_exact q dt hdt]
  simp only [timeshift_zero xf freqs hlen, true_and]
  have hl : (rfftToHilbert tR 0 xf n).length = n := rfftToHilbert_length _ _ _ _
  refine ⟨by rw [place_length]; omega, by omega, by omega, ?_⟩
  exact placement_t0 out _ q t0idx h0 (by rw [hl]; exact hfit) (by rw [hl]; exact ht0)

section examples
example : (List.range 4).map (hilbertWeight 4) = [1, 2, 1, 0] := by decide
example : (List.range 5).map (hilbertWeight 5) = [1, 2, 2, 0, 0] := by decide
example : (List.range 1).map (hilbertWeight 1) = [1] := by decide
example : (List.range 5).map (sgnSeq 5) = [0, 1, 1, -1, -1] := by decide
example : (List.range 4).map (sgnSeq 4) = [0, 1, 0, -1] := by decide

/-- rational scalars with exact floor/ceil (the trigonometric fields are placeholders: they are
not used by `lenPulse`, `toneburst2Layout`, `splitDelay`, `place`) -/
def tQ : RT ℚ :=
  { sin := id, cos := id, pi := 3, ofNat := Nat.cast, ofInt := Int.cast, floor := Rat.floor,
    ceil := Rat.ceil }

-- 5 cycles at 5 MHz sampled at 100 MHz: 100 samples, made odd
example : lenPulse tQ 5 5 (1/100) = 101 := by decide +kernel
example : toneburst2Layout tQ 5 5 (1/100) 2 3 = (606, 252) := by decide +kernel
example : splitDelay tQ (7/2) (1/2) = (7, 0) := by decide +kernel
example : splitDelay tQ (15/4) (1/2) = (7, 1/4) := by decide +kernel
example : (toneburst tQ 0 5 5 (1/100) 300 true).length = 300 := toneburst_length ..
example : (toneburst tQ 0 5 5 (1/100) 300 true)[0]'(by rw [toneburst_length]; decide)
    = pulse tQ 5 5 (1/100) (lenPulse tQ 5 5 (1/100) / 2) :=
  toneburst_wrap_zero tQ 0 5 5 (1/100) 300 (by decide +kernel)

example : place [((1:ℚ), (0:ℚ)), (2, 0), (3, 0), (4, 0)] [(10, 1), (20, 2)] 1
    = [(1, 0), (12, 1), (23, 2), (4, 0)] := by decide +kernel
example : place [((1:ℚ), (0:ℚ)), (2, 0), (3, 0), (4, 0)] [(10, 1), (20, 2)] 2
    = [(1, 0), (2, 0), (13, 1), (24, 2)] := by decide +kernel
-- does not fit: unchanged
example : place [((1:ℚ), (0:ℚ)), (2, 0), (3, 0), (4, 0)] [(10, 1), (20, 2)] 3
    = [(1, 0), (2, 0), (3, 0), (4, 0)] := by decide +kernel
-- negative start: counted from the end
example : place [((1:ℚ), (0:ℚ)), (2, 0), (3, 0), (4, 0)] [(10, 1), (20, 2)] (-3)
    = [(1, 0), (12, 1), (23, 2), (4, 0)] := by decide +kernel
-- straddling index 0: rejected
example : place [((1:ℚ), (0:ℚ)), (2, 0), (3, 0), (4, 0)] [(10, 1), (20, 2)] (-1)
    = [(1, 0), (2, 0), (3, 0), (4, 0)] := by decide +kernel
-- time zero of the response (index 1) lands on output sample q = 2
example : (place [((1:ℚ), (0:ℚ)), (2, 0), (3, 0), (4, 0)] [(10, 1), (20, 2)] (2 - 1))[2]?
    = some (23, 2) := by decide +kernel

-- the real theorems instantiated
example : pulse tR 5 5 (1/100) (lenPulse tR 5 5 (1/100) / 2) = (1, 0) := (toneburst_peak 5 5 (1/100)).1
example : hann tR 7 3 = 1 := hann_centre 7 (by norm_num)
example : hann tR 7 0 = 0 ∧ hann tR 7 6 = 0 := hann_ends 7 (by norm_num)
example : splitDelay tR ((7 : ℤ) * (1/2 : ℝ)) (1/2) = (7, 0) := aligned_exact 7 (1/2) (by norm_num)

/-- the half spectrum of a real signal, as `rfft` returns it -/
noncomputable def rfftR (x : ℕ → ℝ) (n : ℕ) : List (Cx ℝ) :=
  (List.range (n / 2 + 1)).map (fun k =>
    ((C10.dft (fun l => (x l : ℂ)) n k).re, (C10.dft (fun l => (x l : ℂ)) n k).im))

/-- the hypothesis of `rfftToHilbert_real_part` is satisfiable for every real signal -/
theorem rfftR_spec (x : ℕ → ℝ) (n k : ℕ) (hk : 2 * k ≤ n) :
    toC ((rfftR x n).getD k (0, 0)) = C10.dft (fun l => (x l : ℂ)) n k := by
  rw [List.getD_eq_getElem _ _ (by simp [rfftR]; omega)]
  simp [rfftR, toC]

example (x : ℕ → ℝ) (n j : ℕ) (hj : j < n) :
    ((rfftToHilbert tR 0 (rfftR x n) n)[j]'(by rw [rfftToHilbert_length]; exact hj)).1 = x j :=
  rfftToHilbert_real_part x (rfftR x n) n j hj (fun k hk => rfftR_spec x n k hk)

/-- the frequency grid `f_k = k/(n dt)`, `k < L` -/
noncomputable def freqGrid (n : ℕ) (dt : ℝ) (L : ℕ) : List ℝ :=
  (List.range L).map (fun (k : ℕ) => (k : ℝ) / (n * dt))

-- delaying by `m` samples through the spectrum shifts the analytic signal circularly
example (x : ℕ → ℝ) (n j : ℕ) (hj : j < n) (dt : ℝ) (hdt : dt ≠ 0) (m : ℤ)
    (hjm : (((j : ℤ) - m) % n).toNat < n) :
    ((rfftToHilbert tR 0 (timeshift tR (rfftR x n) (freqGrid n dt (n / 2 + 1)) (m * dt)) n)[j]'(by
        rw [rfftToHilbert_length]; exact hj)).1 = x (((j : ℤ) - m) % n).toNat := by
  rw [hilbert_shift (rfftR x n) (freqGrid n dt (n / 2 + 1)) n dt hdt m (by simp [rfftR, freqGrid])
    (by intro k h; simp only [freqGrid, List.getElem_map, List.getElem_range]) j hj]
  exact rfftToHilbert_real_part x (rfftR x n) n _ hjm (fun k hk => rfftR_spec x n k hk)
end examples

/-! `Src.timeshift_window` and `Src.delay_remainder` (file `Generated/SrcC11.lean`) are the translations of the window
arithmetic of the kernel `_timeshift_timedomain` and of the remainder formula of `transfer_func_to_timetraces`, made from
`/repo/src` on every run; `Tie.C11` identifies both with the two halves of the model's `splitDelay`. -/
section OnSource
open Arim.Tie.C11

/-- the routines of the translated code at `K = ℝ`; `timeshift_window` and `delay_remainder` call only `floor` and
`ofInt` (`Tie.C11.rt` also reads `sin`, `cos`, `pi`, `ofNat`).  The other fields are placeholders never called here:
Mathlib's `round` rounds ties up where Python's rounds them to even, `⌊x⌋` is not `int(x)` for negative `x`, `id` is
not `numpy.sinc`. -/
noncomputable def srcOps : Src.Ops ℝ :=
  { sin := Real.sin, cos := Real.cos, asin := Real.arcsin, sqrt := Real.sqrt, exp := Real.exp, sinc := id,
    pi := Real.pi, ofNat := fun n => (n : ℝ), ofInt := fun z => (z : ℝ),
    floor := fun x => ⌊x⌋, round := fun x => round x, trunc := fun x => ⌊x⌋ }

theorem rt_srcOps : rt srcOps Int.ceil = tR := rfl

/-- the split of the source reconstructs the delay: with `q` the whole-sample part the kernel uses (window start plus
`t0_idx`) and `ρ` the remainder its caller shifts by, `delay = q·dt + ρ` and `0 ≤ ρ < dt` — for every delay and step -/
theorem src_split_reconstructs (delays : ℕ → ℝ) (dt : ℝ) (hdt : 0 < dt) (t0 : ℤ) (n idx : ℕ) :
    let q := (Src.timeshift_window srcOps delays dt t0 n idx).1 + t0
    let ρ := Src.delay_remainder srcOps (delays idx) dt
    delays idx = (q : ℝ) * dt + ρ ∧ 0 ≤ ρ ∧ ρ < dt := by
  rw [tie_timeshift_window srcOps Int.ceil, tie_delay_remainder srcOps Int.ceil, rt_srcOps, Int.sub_add_cancel]
  exact splitDelay_spec (delays idx) dt hdt

/-- the window of the kernel is as long as the response (so that NumPy's slice assignment is defined) -/
theorem src_window_length (delays : ℕ → ℝ) (dt : ℝ) (t0 : ℤ) (n idx : ℕ) :
    (Src.timeshift_window srcOps delays dt t0 n idx).2 - (Src.timeshift_window srcOps delays dt t0 n idx).1 = n := by
  rw [tie_timeshift_window srcOps Int.ceil]
  exact add_sub_cancel_left _ _

/-- a delay on a sample, on the source: `delay = q·dt` opens the window at `q − t0_idx` and leaves no remainder, so
(by `aligned_delay`) the time-zero sample of the response lands exactly on output sample `q` -/
theorem src_aligned (q : ℤ) (dt : ℝ) (hdt : 0 < dt) (t0 : ℤ) (n idx : ℕ) (delays : ℕ → ℝ) (hd : delays idx = q * dt) :
    Src.timeshift_window srcOps delays dt t0 n idx = (q - t0, q - t0 + n) ∧ Src.delay_remainder srcOps (delays idx) dt = 0 := by
  rw [tie_timeshift_window srcOps Int.ceil, tie_delay_remainder srcOps Int.ceil, rt_srcOps, hd, aligned_exact q dt hdt]
  exact ⟨rfl, rfl⟩

/-- non-vacuity on rationals-as-reals: delay 3.75 samples of 0.5 → 7 whole samples, remainder 0.25 -/
example : Src.delay_remainder srcOps (15/4) (1/2) = 1/4 := by
  have h : ⌊(15/4 : ℝ) / (1/2)⌋ = 7 := by
    rw [Int.floor_eq_iff]; constructor <;> norm_num
  simp only [Src.delay_remainder, srcOps, h]; norm_num

end OnSource

end Arim.C11
