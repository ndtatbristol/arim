import ArimModel.Frame
import ArimProofs.Lemmas.Frame
/-! # C15 — frame bookkeeping never mis-attributes a timetrace to an element pair

`subframe` (arim's `Frame.subframe`, with any NumPy index kind) and `subprobe` (`Probe.subprobe`) of the model have no
theorem here; the sub-frame theorems are about `subframeFromElements` (`Frame.subframe_from_probe_elements`). -/
namespace Arim.C15
open Arim.Frame

theorem mem_fmc (n i j : Nat) : (i, j) ∈ fmc n ↔ i < n ∧ j < n := by
  simp [fmc]

theorem mem_fmc' (n : Nat) (p : Pair) : p ∈ fmc n ↔ p.1 < n ∧ p.2 < n := mem_fmc n p.1 p.2

theorem mem_hmc' (n : Nat) (p : Pair) : p ∈ hmc n ↔ p.1 ≤ p.2 ∧ p.2 < n := by
  simp only [hmc_eq_filter, List.mem_filter, mem_fmc', decide_eq_true_eq]; omega

theorem mem_hmc (n i j : Nat) : (i, j) ∈ hmc n ↔ i ≤ j ∧ j < n := mem_hmc' n (i, j)

example : hmc 3 = [(0,0),(0,1),(0,2),(1,1),(1,2),(2,2)] := by decide +kernel
example : inferCapture [(1,0),(0,0),(1,1)] = some Capture.hmc := by decide +kernel

theorem fmc_nodup (n : Nat) : (fmc n).Nodup := List.nodup_range.product List.nodup_range

theorem hmc_nodup (n : Nat) : (hmc n).Nodup := hmc_eq_filter n ▸ (fmc_nodup n).filter _

theorem fmc_length (n : Nat) : (fmc n).length = n * n := by
  simp [fmc, List.length_flatMap]

example : (fmc 3).Nodup ∧ (hmc 3).Nodup ∧ (fmc 3).length = 9 := by decide +kernel

theorem numElements_fmc (n : Nat) (hn : 1 ≤ n) : numElements (fmc n) = some n :=
  numElements_of_bound hn (fun p => (mem_fmc' n p).1) ((mem_fmc' n _).2 ⟨by omega, by omega⟩)

theorem numElements_hmc (n : Nat) (hn : 1 ≤ n) : numElements (hmc n) = some n :=
  numElements_of_bound hn (fun p hp => by have := (mem_hmc' n p).1 hp; omega)
    ((mem_hmc' n _).2 ⟨Nat.le_refl _, by omega⟩)

theorem numElements_hmc_swap (n : Nat) (hn : 1 ≤ n) : numElements ((hmc n).map swap) = some n :=
  numElements_of_bound hn (fun p hp => by have := (mem_hmc' n _).1 ((mem_map_swap p _).1 hp); simp only [swap] at this; omega)
    ((mem_map_swap (n - 1, n - 1) _).2 ((mem_hmc n _ _).2 ⟨Nat.le_refl _, by omega⟩))

/-- a full matrix capture on `n ≥ 2` elements is recognised whatever the order in which its
    timetraces are stored (`n = 1` is reported as HMC, see the example below) -/
theorem infer_fmc (n : Nat) (hn : 2 ≤ n) (ps : List Pair) (h : ps.Perm (fmc n)) :
    inferCapture ps = some Capture.fmc := by
  -- `(1, 0)` is not in the upper half matrix, `(0, 1)` not in the lower one
  have h1 : setEq (fmc n) (hmc n) = false :=
    setEq_eq_false_of_mem ((mem_fmc n 1 0).2 ⟨by omega, by omega⟩) fun h => by
      have := (mem_hmc n 1 0).1 h; omega
  have h2 : setEq (fmc n) ((hmc n).map swap) = false :=
    setEq_eq_false_of_mem ((mem_fmc n 0 1).2 ⟨by omega, by omega⟩) fun h => by
      have := (mem_hmc n 1 0).1 ((mem_map_swap (0, 1) _).1 h); omega
  rw [inferCapture_perm h]
  exact (inferCapture_eq_fmc_iff _).2 ⟨n, numElements_fmc n (by omega),
    fun hh => hh.2.elim (fun e => Bool.false_ne_true (h1 ▸ e)) fun e => Bool.false_ne_true (h2 ▸ e),
    rfl, setEq_refl _⟩

/-- a half matrix capture (upper `tx ≤ rx`, or lower `rx ≤ tx`) on `n ≥ 1` elements is recognised
    whatever the order in which its timetraces are stored -/
theorem infer_hmc (n : Nat) (hn : 1 ≤ n) (ps : List Pair)
    (h : ps.Perm (hmc n) ∨ ps.Perm ((hmc n).map swap)) :
    inferCapture ps = some Capture.hmc := by
  rcases h with h | h <;> rw [inferCapture_perm h, inferCapture_eq_hmc_iff]
  · exact ⟨n, numElements_hmc n hn, rfl, Or.inl (setEq_refl _)⟩
  · exact ⟨n, numElements_hmc_swap n hn, (List.length_map ..).symm, Or.inr (setEq_refl _)⟩

/-- a frame is reported FMC exactly when it is a rearrangement of `fmc n` for some `n ≥ 2` -/
theorem infer_fmc_iff (ps : List Pair) :
    inferCapture ps = some Capture.fmc ↔ ∃ n, 2 ≤ n ∧ ps.Perm (fmc n) := by
  refine ⟨fun h => ?_, fun ⟨n, h1, h2⟩ => infer_fmc n h1 ps h2⟩
  obtain ⟨n, hn, hh, hl, hs⟩ := (inferCapture_eq_fmc_iff ps).1 h
  refine ⟨n, ?_, perm_of_setEq_of_length (fmc_nodup n) hs hl⟩
  -- a single-element frame has already been reported as HMC
  by_contra hlt
  obtain rfl : n = 1 := by have := numElements_pos hn; omega
  -- `fmc 1` and `hmc 1` both evaluate to `[(0, 0)]`, so `hl` and `hs` say that the frame looks like `hmc 1`
  exact hh ⟨hl, Or.inl hs⟩

/-- a frame is reported HMC exactly when it is a rearrangement of `hmc n` (or of its mirror image)
    for some `n ≥ 1` -/
theorem infer_hmc_iff (ps : List Pair) :
    inferCapture ps = some Capture.hmc ↔
      ∃ n, 1 ≤ n ∧ (ps.Perm (hmc n) ∨ ps.Perm ((hmc n).map swap)) := by
  refine ⟨fun h => ?_, fun ⟨n, h1, h2⟩ => infer_hmc n h1 ps h2⟩
  obtain ⟨n, hn, hl, hs⟩ := (inferCapture_eq_hmc_iff ps).1 h
  exact ⟨n, numElements_pos hn, hs.imp (perm_of_setEq_of_length (hmc_nodup n) · hl)
    (perm_of_setEq_of_length ((hmc_nodup n).map swap_injective) · ((List.length_map ..).trans hl))⟩

example : inferCapture [(1,1),(0,1),(1,0),(0,0)] = some Capture.fmc := by decide +kernel
example : inferCapture [(1,1),(0,1),(0,0)] = some Capture.hmc := by decide +kernel
example : inferCapture [(1,1),(1,0),(0,0)] = some Capture.hmc := by decide +kernel
/-- a one-element frame is both FMC and HMC; the code answers HMC -/
example : inferCapture (fmc 1) = some Capture.hmc := by decide +kernel
/-- a repeated pair is not mistaken for a missing one -/
example : inferCapture [(1,1),(0,1),(0,1),(0,0)] = some Capture.unsupported := by decide +kernel

theorem weights_length (ps : List Pair) : (defaultWeights ps).length = ps.length := by
  simp [defaultWeights]

/-- the weight of the `k`-th timetrace is 1 when its mirror pair is recorded in the frame
    (this includes `tx = rx`), else 2 -/
theorem weights_rule (ps : List Pair) (k : Nat) (hk : k < ps.length) :
    (defaultWeights ps)[k]? = some (if swap ps[k] ∈ ps then 1 else 2) := by
  simp [defaultWeights, List.getElem?_eq_getElem hk]

example : defaultWeights [(0,0),(0,1),(1,0),(0,2)] = [1,1,1,2] := by decide +kernel
/-- HMC: diagonal pairs weigh 1, off-diagonal pairs 2 -/
example : defaultWeights (hmc 2) = [1,2,1] := by decide +kernel

/-! Expansion by reciprocity.  The hypothesis `(pairsOf f).Nodup` (enforced by `Frame.__init__`) is assumed only where it
is needed: `expand_payload` is false without it (`[⟨0,0,a⟩, ⟨0,0,b⟩]` is complete, hence returned as is, and `lookup`
finds `a` for the second timetrace). -/
variable {P : Type}

theorem expand_pairs_mem (f : List (TT P)) (p : Pair) :
    p ∈ pairsOf (expand f) ↔ (p ∈ pairsOf f ∨ swap p ∈ pairsOf f) := by
  cases hc : isComplete f
  · rw [pairsOf_expand_of_not_complete f hc, mem_expPairs]
  · rw [expand_of_complete hc, ← (isComplete_iff f).1 hc p, or_self]

/-- the expanded frame has no duplicate pair (so it is accepted by `Frame.__init__`) -/
theorem expand_pairs_nodup (f : List (TT P)) (hnd : (pairsOf f).Nodup) :
    (pairsOf (expand f)).Nodup := by
  cases hc : isComplete f
  · rw [pairsOf_expand_of_not_complete f hc]; exact sortDedup_nodup _
  · rwa [expand_of_complete hc]

/-- each timetrace of the expanded frame carries the data recorded for its own pair if that pair
    was recorded, and otherwise the data recorded for the mirror pair: no payload is ever
    attached to an unrelated pair -/
theorem expand_payload (f : List (TT P)) (hnd : (pairsOf f).Nodup) (t : TT P) (ht : t ∈ expand f) :
    lookup f (t.tx, t.rx) = some t.data ∨
      (lookup f (t.tx, t.rx) = none ∧ lookup f (t.rx, t.tx) = some t.data) := by
  cases hc : isComplete f
  · rw [expand_of_not_complete hc, List.mem_filterMap] at ht
    obtain ⟨p, _, hp⟩ := ht
    obtain ⟨rfl, h3⟩ := expandEntry_some f p t hp
    exact h3
  · rw [expand_of_complete hc] at ht
    exact Or.inl (lookup_of_mem f hnd t ht)

theorem expand_complete (f : List (TT P)) : isComplete (expand f) = true := by
  rw [isComplete_iff]
  intro p
  rw [expand_pairs_mem, expand_pairs_mem, swap_swap, or_comm]

theorem expand_idempotent (f : List (TT P)) : expand (expand f) = expand f :=
  expand_of_complete (expand_complete f)

/-- no recorded timetrace is lost or altered by the expansion -/
theorem expand_keeps (f : List (TT P)) (hnd : (pairsOf f).Nodup) (t : TT P) (ht : t ∈ f) :
    t ∈ expand f := by
  cases hc : isComplete f
  · rw [expand_of_not_complete hc, List.mem_filterMap]
    refine ⟨(t.tx, t.rx), (mem_expPairs f _).2 (Or.inl ((mem_pairsOf f _).2 ⟨t, ht, rfl, rfl⟩)), ?_⟩
    simp [expandEntry, lookup_of_mem f hnd t ht]
  · rwa [expand_of_complete hc]

/-- unless the frame was already complete (then it is returned untouched), the expanded frame
    is sorted by `(tx, rx)` in lexicographic order -/
theorem expand_pairs_sorted (f : List (TT P)) (hc : isComplete f = false) :
    (pairsOf (expand f)).Pairwise (fun a b => pairLt a b = true) := by
  rw [pairsOf_expand_of_not_complete f hc]; exact sortDedup_sorted _

/-- a small half-matrix-like frame with distinguishable payloads -/
def exFrame : List (TT Nat) := [⟨1, 0, 10⟩, ⟨0, 0, 20⟩, ⟨1, 1, 30⟩]

example : (pairsOf exFrame).Nodup := by decide +kernel
example : isComplete exFrame = false := by decide +kernel
example : (expand exFrame).map (fun t => (t.tx, t.rx, t.data))
    = [(0,0,20), (0,1,10), (1,0,10), (1,1,30)] := by decide +kernel
example : isComplete (expand exFrame) = true := by decide +kernel
example : (expand (expand exFrame)).map (fun t => (t.tx, t.rx, t.data))
    = (expand exFrame).map (fun t => (t.tx, t.rx, t.data)) := by decide +kernel
/-- an already complete frame is returned as is, unsorted -/
example : (expand [⟨1, 0, 10⟩, ⟨0, 1, 5⟩] : List (TT Nat)).map (fun t => (t.tx, t.rx, t.data))
    = [(1,0,10), (0,1,5)] := by decide +kernel

/-- when no position is selected twice, the `k`-th selected element gets the new index `k` -/
theorem mapper_nodup (n : Nat) (pos : List Nat) (hnd : pos.Nodup) (k : Nat) (hk : k < pos.length) :
    mapper n pos pos[k] = k :=
  hnd.getElem_inj_iff.1 (mapper_spec n pos pos[k] (List.getElem_mem hk)).2

/-- for every old element index retained, the new probe holds the same physical element at the
    renumbered index -/
theorem subprobe_mapper (probe : List Nat) (pos sp : List Nat) (h : take? probe pos = some sp)
    (old : Nat) (ho : old ∈ pos) : sp[mapper probe.length pos old]? = probe[old]? := by
  obtain ⟨hk, hv⟩ := mapper_spec probe.length pos old ho
  obtain ⟨_, h2⟩ := take?_getElem probe pos sp h
  rw [h2 _ hk, hv]

theorem subframe_elements_keep_probe (f : List (TT P)) (probe : List Nat) (ix : Idx)
    (pos : List Nat) (hpos : ix.positions probe.length = some pos) :
    subframeFromElements f probe ix false
      = some (f.filter (fun t => pos.contains t.tx && pos.contains t.rx), probe) := by
  simp [subframeFromElements, hpos]

/-- Sub-frame by probe elements: exactly the timetraces whose both elements are retained are
    kept, in their original order, with the same payload, and — read through the probe returned
    with the frame — attached to the same physical elements as before.  Neither `pos.Nodup` nor a
    range hypothesis on the frame is needed (when an element is selected twice, `mapper` points
    to a copy of it, `mapper_spec` — the last one, by `mapper_append_singleton` — and every copy holds the same
    physical element). -/
theorem subframe_elements (f : List (TT P)) (probe : List Nat) (ix : Idx) (mk : Bool)
    (pos : List Nat) (hpos : ix.positions probe.length = some pos)
    (f' : List (TT P)) (probe' : List Nat)
    (h : subframeFromElements f probe ix mk = some (f', probe')) :
    f'.map (fun t => (probe'[t.tx]?, probe'[t.rx]?, t.data))
      = (f.filter (fun t => pos.contains t.tx && pos.contains t.rx)).map
          (fun t => (probe[t.tx]?, probe[t.rx]?, t.data)) := by
  cases mk with
  | false =>
    rw [subframe_elements_keep_probe f probe ix pos hpos] at h
    cases h; rfl
  | true =>
    obtain ⟨hsp, -, rfl⟩ := (subframeFromElements_true_iff f probe ix pos hpos f' probe').1 h
    rw [List.map_map]
    refine List.map_congr_left fun t ht => ?_
    simp only [List.mem_filter, Bool.and_eq_true, List.contains_iff_mem] at ht
    simp only [Function.comp, subprobe_mapper probe pos probe' hsp _ ht.2.1,
      subprobe_mapper probe pos probe' hsp _ ht.2.2]

/-- with `make_subprobe` the returned probe is the selection, and the returned frame is a valid
    `Frame` on it: element indices in range, no duplicate pair -/
theorem subframe_elements_subprobe (f : List (TT P)) (probe : List Nat) (ix : Idx)
    (pos : List Nat) (hpos : ix.positions probe.length = some pos)
    (f' : List (TT P)) (probe' : List Nat)
    (h : subframeFromElements f probe ix true = some (f', probe')) :
    take? probe pos = some probe' ∧ probe'.length = pos.length ∧
      (∀ k (hk : k < pos.length), probe'[k]? = probe[pos[k]]?) ∧
      (∀ t ∈ f', t.tx < probe'.length ∧ t.rx < probe'.length) ∧ (pairsOf f').Nodup := by
  obtain ⟨hsp, hnd, rfl⟩ := (subframeFromElements_true_iff f probe ix pos hpos f' probe').1 h
  obtain ⟨h1, h2⟩ := take?_getElem probe pos probe' hsp
  refine ⟨hsp, h1, h2, ?_, hnd⟩
  simp only [List.forall_mem_map, List.mem_filter, Bool.and_eq_true, List.contains_iff_mem, h1]
  exact fun u hu => ⟨(mapper_spec _ pos _ hu.2.1).1, (mapper_spec _ pos _ hu.2.2).1⟩

/-- the operation never fails on a frame without duplicate pair and an index that NumPy accepts
    (`positions` is `some`), whatever its kind (slice, mask, integer array, also with repeated entries) -/
theorem subframe_elements_succeeds (f : List (TT P)) (hnd : (pairsOf f).Nodup) (probe : List Nat)
    (ix : Idx) (mk : Bool) (pos : List Nat) (hpos : ix.positions probe.length = some pos) :
    ∃ r, subframeFromElements f probe ix mk = some r := by
  cases mk with
  | false => exact ⟨_, subframe_elements_keep_probe f probe ix pos hpos⟩
  | true =>
    obtain ⟨sp, hsp⟩ := take?_isSome probe pos (positions_bound ix probe.length pos hpos)
    refine ⟨_, (subframeFromElements_true_iff f probe ix pos hpos _ sp).2 ⟨hsp, ?_, rfl⟩⟩
    have hk : (pairsOf (f.filter fun t => pos.contains t.tx && pos.contains t.rx)).Nodup :=
      hnd.sublist (List.filter_sublist.map _)
    exact nodup_pairsOf_renumber _ hk fun t ht => by simpa using (List.mem_filter.1 ht).2

/-- a 3-element half-matrix frame with distinguishable payloads, on a probe whose elements are
    tagged 100, 101, 102 -/
def exHmc : List (TT Nat) := [⟨0,0,1⟩, ⟨0,1,2⟩, ⟨0,2,3⟩, ⟨1,1,4⟩, ⟨1,2,5⟩, ⟨2,2,6⟩]
def exProbe : List Nat := [100, 101, 102]
def view (r : Option (List (TT Nat) × List Nat)) : Option (List (Nat × Nat × Nat) × List Nat) :=
  r.map (fun r => (r.1.map (fun t => (t.tx, t.rx, t.data)), r.2))

example : (Idx.ints [2, 0]).positions exProbe.length = some [2, 0] := by decide +kernel
example : view (subframeFromElements exHmc exProbe (.ints [2, 0]) true)
    = some ([(1,1,1), (1,0,3), (0,0,6)], [102, 100]) := by decide +kernel
example : view (subframeFromElements exHmc exProbe (.ints [2, 0]) false)
    = some ([(0,0,1), (0,2,3), (2,2,6)], [100, 101, 102]) := by decide +kernel
example : view (subframeFromElements exHmc exProbe (.slice (some 1) none 1) true)
    = some ([(0,0,4), (0,1,5), (1,1,6)], [101, 102]) := by decide +kernel
example : view (subframeFromElements exHmc exProbe (.mask [true, false, true]) true)
    = some ([(0,0,1), (0,1,3), (1,1,6)], [100, 102]) := by decide +kernel
example : view (subframeFromElements exHmc exProbe (.slice none none (-1)) true)
    = some ([(2,2,1), (2,1,2), (2,0,3), (1,1,4), (1,0,5), (0,0,6)], [102, 101, 100]) := by decide +kernel
/-- a repeated index: the element is duplicated in the new probe, timetraces refer to the last copy -/
example : view (subframeFromElements exHmc exProbe (.ints [0, 0]) true)
    = some ([(1,1,1)], [100, 100]) := by decide +kernel
example : view (subframeFromElements exHmc exProbe (.ints [3]) true) = none := by decide +kernel
example : mapper 3 [2, 0] 2 = 0 ∧ mapper 3 [2, 0] 0 = 1 := by decide +kernel

end Arim.C15
