import ArimModel.MinPlus
/-! Lemmas on the min-plus scan (`kstep`, `scanMin`) that need no order laws: the scan consumes its
    candidates in the order `k = 0, 1, …` and returns one of them. -/
namespace Arim
variable {α : Type} [LT α] [DecidableLT α]

theorem scanMin_succ (f : Nat → α) (m : Nat) :
    scanMin f (m + 1) = kstep (scanMin f m) m (f m) := by
  rw [scanMin, List.range_succ, List.foldl_append]; rfl

theorem scanMin_congr (f g : Nat → α) (m : Nat) (h : ∀ k, k < m → f k = g k) :
    scanMin f m = scanMin g m := by
  induction m with
  | zero => rfl
  | succ m ih =>
    rw [scanMin_succ, scanMin_succ, ih fun k hk => h k (Nat.lt_succ_of_lt hk), h m m.lt_succ_self]

theorem kstep_eq (acc : Option (α × Nat)) (k : Nat) (x : α) :
    kstep acc k x = some (x, k) ∨ (kstep acc k x = acc ∧ acc ≠ none) := by
  unfold kstep; split
  · exact .inl rfl
  · split
    · exact .inl rfl
    · exact .inr ⟨rfl, nofun⟩

theorem scanMin_some (f : Nat → α) {m : Nat} (hm : 0 < m) :
    ∃ k, k < m ∧ scanMin f m = some (f k, k) := by
  induction m with
  | zero => cases hm
  | succ m ih =>
    rw [scanMin_succ]
    rcases kstep_eq (scanMin f m) m (f m) with h | ⟨h, hne⟩
    · exact ⟨m, m.lt_succ_self, h⟩
    · obtain ⟨k, hk, hs⟩ := ih (Nat.pos_of_ne_zero fun h0 => hne (h0 ▸ rfl))
      exact ⟨k, Nat.lt_succ_of_lt hk, h.trans hs⟩

end Arim
