import ArimModel.Registration
import Mathlib.Order.Defs.LinearOrder
import Mathlib.Order.Basic
/-! Lemmas for the surface-detection part of C19: `argmaxFirst` as the split of a list at its
    first maximum, `searchLeft`/`searchRight` on increasing samples, `detectSurface` as an
    argmax over an index window.  Order theory only: nothing here needs arithmetic. -/
namespace Arim.Reg.Lemmas
open Arim.Reg

section argmax
variable {K : Type} [LinearOrder K]

/-- one step of the `argmaxFirst` fold; the state is `(best, its index, current index)` -/
def amStep (st : K × Nat × Nat) (v : K) : K × Nat × Nat :=
  if st.1 < v then (v, st.2.2 + 1, st.2.2 + 1) else (st.1, st.2.1, st.2.2 + 1)

theorem argmaxFirst_cons (x : K) (rest : List K) :
    argmaxFirst (x :: rest) = some ((rest.foldl amStep (x, 0, 0)).2.1) := rfl

theorem amStep_of_lt {best v : K} (h : best < v) (bi i : Nat) :
    amStep (best, bi, i) v = (v, i + 1, i + 1) := if_pos h

theorem amStep_of_not_lt {best v : K} (h : ¬ best < v) (bi i : Nat) :
    amStep (best, bi, i) v = (best, bi, i + 1) := if_neg h

theorem foldl_amStep_of_le (B : List K) (best : K) (bi i : Nat) (h : ∀ b ∈ B, b ≤ best) :
    B.foldl amStep (best, bi, i) = (best, bi, i + B.length) := by
  induction B generalizing i with
  | nil => rfl
  | cons b B ih =>
    rw [List.foldl_cons, amStep_of_not_lt (not_lt.2 (h b List.mem_cons_self)),
      ih _ fun c hc => h c (List.mem_cons_of_mem _ hc), List.length_cons, Nat.add_right_comm,
      Nat.add_assoc]

theorem foldl_amStep_split (A B : List K) (m best : K) (bi i : Nat) (hb : best < m)
    (hA : ∀ a ∈ A, a < m) (hB : ∀ b ∈ B, b ≤ m) :
    ((A ++ m :: B).foldl amStep (best, bi, i)).2.1 = i + A.length + 1 := by
  induction A generalizing best bi i with
  | nil =>
    rw [List.nil_append, List.foldl_cons, amStep_of_lt hb, foldl_amStep_of_le B m _ _ hB]; rfl
  | cons a A ih =>
    have hA' := fun c hc => hA c (List.mem_cons_of_mem _ hc)
    rw [List.cons_append, List.foldl_cons, List.length_cons]
    by_cases h : best < a
    · rw [amStep_of_lt h, ih a _ _ (hA a List.mem_cons_self) hA']; omega
    · rw [amStep_of_not_lt h, ih best _ _ hb hA']; omega

theorem argmaxFirst_split (A B : List K) (m : K) (hA : ∀ a ∈ A, a < m) (hB : ∀ b ∈ B, b ≤ m) :
    argmaxFirst (A ++ m :: B) = some A.length := by
  cases A with
  | nil => rw [List.nil_append, argmaxFirst_cons, foldl_amStep_of_le B m 0 0 hB]; rfl
  | cons a A =>
    rw [List.cons_append, argmaxFirst_cons, foldl_amStep_split A B m a 0 0
      (hA a List.mem_cons_self) (fun c hc => hA c (List.mem_cons_of_mem _ hc)) hB,
      List.length_cons, Nat.zero_add]

theorem exists_first_max (l : List K) (hl : l ≠ []) :
    ∃ A m B, l = A ++ m :: B ∧ (∀ a ∈ A, a < m) ∧ ∀ b ∈ B, b ≤ m := by
  induction l with
  | nil => exact absurd rfl hl
  | cons x l ih =>
    cases l with
    | nil => exact ⟨[], x, [], rfl, by simp, by simp⟩
    | cons y l =>
      obtain ⟨A, m, B, e, hA, hB⟩ := ih (List.cons_ne_nil _ _)
      rw [e]
      by_cases hx : x < m
      · exact ⟨x :: A, m, B, rfl, List.forall_mem_cons.2 ⟨hx, hA⟩, hB⟩
      · have hm : m ≤ x := not_lt.1 hx
        exact ⟨[], x, A ++ m :: B, rfl, (fun _ h => nomatch h), List.forall_mem_append.2
          ⟨fun a ha => (hA a ha).le.trans hm,
            List.forall_mem_cons.2 ⟨hm, fun b hb => (hB b hb).trans hm⟩⟩⟩

theorem argmaxFirst_eq_none_iff {l : List K} : argmaxFirst l = none ↔ l = [] := by
  cases l with
  | nil => exact ⟨fun _ => rfl, fun _ => rfl⟩
  | cons x rest => exact ⟨fun h => (nomatch h), fun h => (nomatch h)⟩

theorem argmaxFirst_spec' {l : List K} {i : Nat} (h : argmaxFirst l = some i) :
    ∃ m, l[i]? = some m ∧ (∀ (j : Nat) v, l[j]? = some v → v ≤ m) ∧
      (∀ (j : Nat) v, j < i → l[j]? = some v → v < m) := by
  obtain ⟨A, m, B, rfl, hA, hB⟩ := exists_first_max l (by rintro rfl; cases h)
  cases (argmaxFirst_split A B m hA hB).symm.trans h
  have hall : ∀ x ∈ A ++ m :: B, x ≤ m :=
    List.forall_mem_append.2 ⟨fun a ha => (hA a ha).le, List.forall_mem_cons.2 ⟨le_rfl, hB⟩⟩
  refine ⟨m, by simp, fun j v hj => hall v (List.mem_of_getElem? hj), fun j v hj hv => ?_⟩
  rw [List.getElem?_append_left hj] at hv
  exact hA _ (List.mem_of_getElem? hv)

end argmax

section window
variable {K : Type}

theorem window_getElem? (l : List K) (lo hi k : Nat) :
    ((l.take hi).drop lo)[k]? = if lo + k < hi then l[lo + k]? else none := by
  rw [List.getElem?_drop, List.getElem?_take]

theorem window_getElem?_sub (l : List K) {lo hi j : Nat} (h1 : lo ≤ j) (h2 : j < hi) :
    ((l.take hi).drop lo)[j - lo]? = l[j]? := by
  rw [window_getElem?, Nat.add_sub_cancel' h1, if_pos h2]

theorem window_length {l : List K} {hi : Nat} (h : hi ≤ l.length) (lo : Nat) :
    ((l.take hi).drop lo).length = hi - lo := by
  rw [List.length_drop, List.length_take, Nat.min_eq_left h]

variable [LinearOrder K]

theorem argmaxFirst_window {d : List K} {lo hi k : Nat}
    (h : argmaxFirst ((d.take hi).drop lo) = some k) :
    ∃ m, lo + k < hi ∧ d[lo + k]? = some m ∧
      (∀ (j : Nat) v, lo ≤ j → j < hi → d[j]? = some v → v ≤ m) ∧
      (∀ (j : Nat) v, lo ≤ j → j < lo + k → d[j]? = some v → v < m) := by
  obtain ⟨m, hm, hmax, hfirst⟩ := argmaxFirst_spec' h
  rw [window_getElem?] at hm
  split at hm
  · rename_i hk
    refine ⟨m, hk, hm, fun j v h1 h2 hv => hmax (j - lo) v ?_,
      fun j v h1 h2 hv => hfirst (j - lo) v (by omega) ?_⟩
    · rw [window_getElem?_sub d h1 h2, hv]
    · rw [window_getElem?_sub d h1 (by omega), hv]
  · cases hm

theorem argmaxFirst_bind_eq_none_iff {a b : List K} (h : a.length = b.length) :
    (argmaxFirst a).bind (fun i => b[i]?) = none ↔ a = [] := by
  cases hk : argmaxFirst a with
  | none => exact iff_of_true rfl (argmaxFirst_eq_none_iff.1 hk)
  | some k =>
    obtain ⟨m, hm, -⟩ := argmaxFirst_spec' hk
    have hk' := (List.getElem?_eq_some_iff.1 hm).1
    refine iff_of_false ?_ (List.ne_nil_of_length_pos (Nat.zero_lt_of_lt hk'))
    rw [Option.bind_some, List.getElem?_eq_none_iff, ← h]
    exact Nat.not_le_of_lt hk'

theorem window_bind_eq_none_iff {d times : List K} {lo hi : Nat}
    (hlen : d.length = times.length) (hhi : hi ≤ times.length) :
    (argmaxFirst ((d.take hi).drop lo)).bind (fun i => ((times.take hi).drop lo)[i]?) = none ↔
      hi ≤ lo := by
  rw [argmaxFirst_bind_eq_none_iff (by rw [window_length (hlen ▸ hhi), window_length hhi]),
    ← List.length_eq_zero_iff, window_length (hlen ▸ hhi), Nat.sub_eq_zero_iff_le]

end window

section search
variable {K : Type}

/-- along a list on which `p` is downward closed, `takeWhile p` stops for good -/
theorem not_of_mem_dropWhile {p : K → Bool} {l : List K}
    (hmono : l.Pairwise (fun a b => p b = true → p a = true)) :
    ∀ x ∈ l.dropWhile p, ¬ p x = true := by
  induction l with
  | nil => intro x hx; cases hx
  | cons a l ih =>
    rw [List.pairwise_cons] at hmono
    by_cases hpa : p a = true
    · rw [List.dropWhile_cons_of_pos hpa]; exact ih hmono.2
    · rw [List.dropWhile_cons_of_neg hpa]
      intro x hx hpx
      rcases List.mem_cons.1 hx with rfl | hx
      · exact hpa hpx
      · exact hpa (hmono.1 x hx hpx)

theorem takeWhile_eq_filter_of_mono {p : K → Bool} {l : List K}
    (hmono : l.Pairwise (fun a b => p b = true → p a = true)) : l.takeWhile p = l.filter p := by
  calc l.takeWhile p = (l.takeWhile p ++ l.dropWhile p).filter p := by
        rw [List.filter_append, List.filter_eq_self.2 (List.all_eq_true.1 List.all_takeWhile),
          List.filter_eq_nil_iff.2 (not_of_mem_dropWhile hmono), List.append_nil]
    _ = l.filter p := by rw [List.takeWhile_append_dropWhile]

theorem takeWhile_length_spec {p : K → Bool} {l : List K}
    (hmono : l.Pairwise (fun a b => p b = true → p a = true)) {i : Nat} {v : K}
    (h : l[i]? = some v) : p v = true ↔ i < (l.takeWhile p).length := by
  rw [← List.takeWhile_append_dropWhile (p := p) (l := l), List.getElem?_append] at h
  split at h
  · rename_i hi
    exact iff_of_true (List.all_eq_true.1 List.all_takeWhile v (List.mem_of_getElem? h)) hi
  · rename_i hi
    exact iff_of_false (not_of_mem_dropWhile hmono v (List.mem_of_getElem? h)) hi

variable [LinearOrder K]

theorem lt_downward {samples : List K} (hs : samples.Pairwise (· < ·)) (t : K) :
    samples.Pairwise (fun a b => decide (b < t) = true → decide (a < t) = true) :=
  hs.imp fun hab hb => decide_eq_true (lt_trans hab (of_decide_eq_true hb))

theorem le_downward {samples : List K} (hs : samples.Pairwise (· < ·)) (t : K) :
    samples.Pairwise (fun a b => decide (b ≤ t) = true → decide (a ≤ t) = true) :=
  hs.imp fun hab hb => decide_eq_true (le_trans hab.le (of_decide_eq_true hb))

theorem searchLeft_spec' {samples : List K} (hs : samples.Pairwise (· < ·)) (t : K) {i : Nat}
    {v : K} (h : samples[i]? = some v) : v < t ↔ i < searchLeft samples t :=
  decide_eq_true_iff.symm.trans (takeWhile_length_spec (lt_downward hs t) h)

theorem searchRight_spec' {samples : List K} (hs : samples.Pairwise (· < ·)) (t : K) {i : Nat}
    {v : K} (h : samples[i]? = some v) : v ≤ t ↔ i < searchRight samples t :=
  decide_eq_true_iff.symm.trans (takeWhile_length_spec (le_downward hs t) h)

end search

section detect
variable {K : Type} [LinearOrder K]

/-- lower index bound used by `detectSurface` -/
def loIdx (samples : List K) : Option K → Nat
  | none => 0
  | some t => searchLeft samples t

/-- upper index bound used by `detectSurface` -/
def hiIdx (samples : List K) : Option K → Nat
  | none => samples.length
  | some t => searchRight samples t

theorem detectSurface_eq (abs : K → K) (samples tr : List K) (tmin tmax : Option K) :
    detectSurface abs samples tr tmin tmax =
      (argmaxFirst (((tr.map abs).take (hiIdx samples tmax)).drop (loIdx samples tmin))).bind
        (fun i => ((samples.take (hiIdx samples tmax)).drop (loIdx samples tmin))[i]?) := by
  rw [← List.map_take, ← List.map_drop]
  cases tmin <;> cases tmax <;> rfl

theorem loIdx_spec {samples : List K} (hs : samples.Pairwise (· < ·)) (tmin : Option K)
    (j : Nat) (hj : j < samples.length) :
    loIdx samples tmin ≤ j ↔ ∀ a, tmin = some a → a ≤ samples[j] := by
  cases tmin with
  | none => exact iff_of_true (Nat.zero_le j) (fun _ h => nomatch h)
  | some a =>
    simp only [Option.some.injEq, forall_eq']
    exact (Nat.not_lt.symm.trans
      (not_congr (searchLeft_spec' hs a (List.getElem?_eq_getElem hj)).symm)).trans not_lt

theorem hiIdx_spec {samples : List K} (hs : samples.Pairwise (· < ·)) (tmax : Option K)
    (j : Nat) (hj : j < samples.length) :
    j < hiIdx samples tmax ↔ ∀ b, tmax = some b → samples[j] ≤ b := by
  cases tmax with
  | none => exact iff_of_true hj (fun _ h => nomatch h)
  | some b =>
    simp only [Option.some.injEq, forall_eq']
    exact (searchRight_spec' hs b (List.getElem?_eq_getElem hj)).symm

theorem hiIdx_le (samples : List K) (tmax : Option K) : hiIdx samples tmax ≤ samples.length := by
  cases tmax with
  | none => exact Nat.le_refl _
  | some b => exact (List.takeWhile_sublist _).length_le

end detect
end Arim.Reg.Lemmas
