import ArimModel.TimeDomain
import ArimProofs.Lemmas.Dft
import ArimProofs.Lemmas.FoldSum
import Mathlib.Data.List.Rotate
import Mathlib.Data.List.GetD
import Mathlib.Algebra.Order.Floor.Ring
import Mathlib.Tactic.Ring
/-! Equations and general facts of the definitions of `ArimModel.TimeDomain`, for `ArimProofs.C11`, over the real instance
    `tR` of `RT`, with a pair read as a complex number (`toC`) and the model's `foldl` sums as `Finset` sums. -/
namespace Arim.TDLemmas
open Arim.TD
open Finset
open scoped Real

/-- the exact real instance of the scalar operations -/
noncomputable def tR : RT ℝ :=
  { sin := Real.sin, cos := Real.cos, pi := Real.pi, ofNat := fun n => (n : ℝ),
    ofInt := fun z => (z : ℝ), floor := Int.floor, ceil := Int.ceil }

@[simp] theorem tR_sin (x : ℝ) : tR.sin x = Real.sin x := rfl
@[simp] theorem tR_cos (x : ℝ) : tR.cos x = Real.cos x := rfl
@[simp] theorem tR_pi : tR.pi = π := rfl
@[simp] theorem tR_ofNat (n : ℕ) : tR.ofNat n = (n : ℝ) := rfl
@[simp] theorem tR_ofInt (z : ℤ) : tR.ofInt z = (z : ℝ) := rfl
@[simp] theorem tR_floor (x : ℝ) : tR.floor x = ⌊x⌋ := rfl
@[simp] theorem tR_ceil (x : ℝ) : tR.ceil x = ⌈x⌉ := rfl

/-- the analytic-signal weights without the case distinction on the parity of `n` -/
theorem hilbertWeight_eq (n k : ℕ) :
    hilbertWeight n k = if k = 0 ∨ 2 * k = n then 1 else if 2 * k < n then 2 else 0 := by
  unfold hilbertWeight
  rcases Nat.mod_two_eq_zero_or_one n with h | h
  · have e1 : k = n / 2 ↔ 2 * k = n := by omega
    have e2 : k < n / 2 ↔ 2 * k < n := by omega
    simp only [h, beq_self_eq_true, if_true, beq_iff_eq, Bool.or_eq_true, e1, e2]
  · have e1 : ¬ 2 * k = n := by omega
    have e2 : k < (n + 1) / 2 ↔ 2 * k < n := by omega
    simp only [h, beq_iff_eq, e1, e2, or_false, Nat.one_ne_zero, if_false]

/-- the pair `(a, b)` denotes `a + b i` -/
def toC (a : Cx ℝ) : ℂ := ⟨a.1, a.2⟩

@[simp] theorem toC_re (a : Cx ℝ) : (toC a).re = a.1 := rfl
@[simp] theorem toC_im (a : Cx ℝ) : (toC a).im = a.2 := rfl
@[simp] theorem toC_zero : toC ((0 : ℝ), (0 : ℝ)) = 0 := rfl
@[simp] theorem toC_one : toC ((1 : ℝ), (0 : ℝ)) = 1 := rfl

theorem toC_injective : Function.Injective toC :=
  fun _ _ h => Prod.ext (congrArg Complex.re h) (congrArg Complex.im h)

theorem toC_cmul (a b : Cx ℝ) : toC (cmul a b) = toC a * toC b := by
  apply Complex.ext <;> simp [cmul, toC]

theorem toC_cadd (a b : Cx ℝ) : toC (cadd a b) = toC a + toC b := by
  apply Complex.ext <;> simp [cadd, toC]

theorem toC_csmul (s : ℝ) (a : Cx ℝ) : toC (csmul s a) = (s : ℂ) * toC a := by
  apply Complex.ext <;> simp [csmul, toC]

theorem toC_cis (x : ℝ) : toC (cis tR x) = Complex.exp (x * Complex.I) := by
  apply Complex.ext
  · simp [cis, toC, Complex.exp_ofReal_mul_I_re]
  · simp [cis, toC, Complex.exp_ofReal_mul_I_im]

theorem toC_foldl_cadd (g : ℕ → Cx ℝ) (init : Cx ℝ) (m : ℕ) :
    toC ((List.range m).foldl (fun acc k => cadd acc (g k)) init)
      = toC init + ∑ k ∈ range m, toC (g k) := by
  rw [← Arim.foldl_range_add]
  exact (List.foldl_hom toC fun x k => (toC_cadd x (g k)).symm).symm

theorem splitDelay_tR (delay dt : ℝ) :
    splitDelay tR delay dt = (⌊delay / dt⌋, delay - (⌊delay / dt⌋ : ℝ) * dt) := rfl

section shape
variable {K : Type}

theorem lenPulse_spec [Div K] (t : RT K) (cycles : ℕ) (f dt : K) :
    lenPulse t cycles f dt % 2 = 1 ∧
      (t.ceil (t.ofNat cycles / f / dt)).toNat ≤ lenPulse t cycles f dt ∧
      lenPulse t cycles f dt ≤ (t.ceil (t.ofNat cycles / f / dt)).toNat + 1 := by
  simp only [lenPulse, beq_iff_eq]
  split_ifs <;> omega

/-- odd, so that the pulse has a centre sample -/
theorem lenPulse_odd [Div K] (t : RT K) (cycles : ℕ) (f dt : K) :
    lenPulse t cycles f dt % 2 = 1 :=
  (lenPulse_spec t cycles f dt).1

theorem half_lt_lenPulse [Div K] (t : RT K) (cycles : ℕ) (f dt : K) :
    lenPulse t cycles f dt / 2 < lenPulse t cycles f dt := by
  have := lenPulse_odd t cycles f dt
  omega

end shape

/-- `np.hanning(1) = [1]` (and the model's convention for `m = 0`) -/
theorem hann_one (m k : ℕ) (hm : m ≤ 1) : hann tR m k = 1 := by
  simp [hann, hm]

theorem hann_eq (m k : ℕ) (hm : 2 ≤ m) :
    hann tR m k = 1 / 2 - 1 / 2 * Real.cos (2 * π * k / ((m - 1 : ℕ) : ℝ)) := by
  simp only [hann, if_neg (Nat.not_le.2 hm), tR_ofNat, tR_pi, tR_cos, Nat.cast_one, Nat.cast_ofNat]

theorem hann_eq_sin_sq (m k : ℕ) (hm : 2 ≤ m) : hann tR m k = Real.sin (π * k / ((m - 1 : ℕ) : ℝ)) ^ 2 := by
  rw [hann_eq m k hm, Real.sin_sq_eq_half_sub, ← mul_div_assoc, ← mul_assoc, one_div, inv_mul_eq_div]

theorem hann_symm (m k : ℕ) (hk : k < m) : hann tR m k = hann tR m (m - 1 - k) := by
  rcases Nat.lt_or_ge m 2 with hm | hm
  · rw [hann_one m _ (by omega), hann_one m _ (by omega)]
  · rw [hann_eq_sin_sq m _ hm, hann_eq_sin_sq m _ hm, Nat.cast_sub (by omega : k ≤ m - 1), mul_sub, sub_div,
      mul_div_cancel_right₀ _ (Nat.cast_ne_zero.2 (by omega : m - 1 ≠ 0)), Real.sin_pi_sub]

/-- `m − 1 = 2 (m/2)` for odd `m`, and `sin (π/2) = 1` -/
theorem hann_centre (m : ℕ) (hodd : m % 2 = 1) : hann tR m (m / 2) = 1 := by
  rcases Nat.lt_or_ge m 2 with hm | hm
  · exact hann_one m _ (by omega)
  · rw [hann_eq_sin_sq m _ hm,
      Nat.sub_eq_of_eq_add (Nat.two_mul_div_two_add_one_of_odd (Nat.odd_iff.2 hodd)).symm, Nat.cast_mul,
      Nat.cast_ofNat, mul_div_mul_right _ _ (Nat.cast_ne_zero.2 (Nat.div_pos hm two_pos).ne'),
      Real.sin_pi_div_two, one_pow]

theorem hann_range (m k : ℕ) : 0 ≤ hann tR m k ∧ hann tR m k ≤ 1 := by
  rcases Nat.lt_or_ge m 2 with hm | hm
  · rw [hann_one m _ (by omega)]
    exact ⟨zero_le_one, le_rfl⟩
  · rw [hann_eq_sin_sq m _ hm]
    exact ⟨sq_nonneg _, Real.sin_sq_le_one _⟩

theorem pulse_eq (cycles : ℕ) (f dt : ℝ) (k : ℕ) :
    pulse tR cycles f dt k =
      (hann tR (lenPulse tR cycles f dt) k
          * Real.cos (2 * π * dt * f * ((k : ℝ) - ((lenPulse tR cycles f dt / 2 : ℕ) : ℝ))),
       hann tR (lenPulse tR cycles f dt) k
          * Real.sin (2 * π * dt * f * ((k : ℝ) - ((lenPulse tR cycles f dt / 2 : ℕ) : ℝ)))) := by
  simp only [pulse, csmul, cis, tR_cos, tR_sin, tR_pi, tR_ofNat, tR_ofInt, Int.cast_sub,
    Int.cast_natCast, Nat.cast_ofNat]

theorem toC_pulse (cycles : ℕ) (f dt : ℝ) (k : ℕ) :
    toC (pulse tR cycles f dt k) =
      ((hann tR (lenPulse tR cycles f dt) k : ℝ) : ℂ)
        * Complex.exp (2 * π * Complex.I * (dt * f * ((k : ℂ) - ((lenPulse tR cycles f dt / 2 : ℕ) : ℂ)))) := by
  unfold pulse
  simp only [toC_csmul, toC_cis]
  congr 2
  simp only [tR_pi, tR_ofNat, tR_ofInt, Int.cast_sub, Int.cast_natCast, Nat.cast_ofNat,
    Complex.ofReal_mul, Complex.ofReal_sub, Complex.ofReal_natCast, Complex.ofReal_ofNat]
  ring

section tb
variable {K : Type} [Sub K] [Mul K] [Div K]

theorem toneburst_length (t : RT K) (zero : K) (cycles : ℕ) (f dt : K) (N : ℕ) (wrap : Bool) :
    (toneburst t zero cycles f dt N wrap).length = N := by
  cases wrap
  · simp only [toneburst, Bool.false_eq_true, if_false, List.length_map, List.length_range]
  · simp only [toneburst, if_true, List.length_append, List.length_drop, List.length_take, List.length_map,
      List.length_range]
    omega

theorem toneburst_wrap_eq (t : RT K) (zero : K) (cycles : ℕ) (f dt : K) (N : ℕ)
    (hl : lenPulse t cycles f dt / 2 ≤ N) :
    toneburst t zero cycles f dt N true
      = (toneburst t zero cycles f dt N false).rotate (lenPulse t cycles f dt / 2) := by
  rw [List.rotate_eq_drop_append_take (by rw [toneburst_length]; exact hl)]
  simp [toneburst]

theorem toneburst_wrap_entry (t : RT K) (zero : K) (cycles : ℕ) (f dt : K) (N k : ℕ) (hk : k < N)
    (hl : lenPulse t cycles f dt / 2 ≤ N) :
    (toneburst t zero cycles f dt N true)[k]'(by rw [toneburst_length]; exact hk)
      = (toneburst t zero cycles f dt N false)[(k + lenPulse t cycles f dt / 2) % N]'(by
          rw [toneburst_length]; exact Nat.mod_lt _ (by omega)) := by
  simp only [toneburst_wrap_eq t zero cycles f dt N hl, List.getElem_rotate, toneburst_length]

omit [Sub K] [Mul K] in
theorem toneburst2_layout (t : RT K) (cycles : ℕ) (f dt : K) (nb na : ℕ) :
    toneburst2Layout t cycles f dt nb na
      = (nb * lenPulse t cycles f dt + lenPulse t cycles f dt + na * lenPulse t cycles f dt,
         nb * lenPulse t cycles f dt + lenPulse t cycles f dt / 2) := rfl
end tb

section generic
variable {K : Type} [Add K] [Sub K] [Mul K]

theorem rfftToHilbert_length [Div K] (t : RT K) (zero : K) (xf : List (Cx K)) (n : ℕ) :
    (rfftToHilbert t zero xf n).length = n := by
  simp [rfftToHilbert]

/-- `zip` truncates to the shorter of spectrum and frequency list -/
theorem timeshift_length [Neg K] (t : RT K) (x : List (Cx K)) (freqs : List K) (tau : K) :
    (timeshift t x freqs tau).length = min x.length freqs.length := by
  simp [timeshift]

theorem timeshift_spec [Neg K] (t : RT K) (x : List (Cx K)) (freqs : List K) (tau : K) (k : ℕ)
    (hx : k < x.length) (hf : k < freqs.length) :
    (timeshift t x freqs tau)[k]'(by rw [timeshift_length]; omega)
      = cmul x[k] (cis t (-(t.ofNat 2 * t.pi * freqs[k] * tau))) := by
  simp [timeshift]

end generic

section spectral
open Complex

theorem toC_cis_rootPow (n r : ℕ) :
    toC (cis tR (tR.ofNat 2 * tR.pi * tR.ofNat r / tR.ofNat n)) = C10.rootPow n r := by
  rw [toC_cis, C10.rootPow]
  congr 1
  simp only [tR_ofNat, tR_pi]
  push_cast
  ring

/-- the input is zero-padded or truncated to `n`; the model reduces `j·k` modulo `n` before forming the phase, which is the
same power of the root of unity -/
theorem toC_idft (y : List (Cx ℝ)) (n j : ℕ) :
    toC (idft tR 0 y n j) = C10.idft (fun k => toC (y.getD k (0, 0))) n j := by
  unfold idft
  rw [toC_csmul, toC_foldl_cadd, toC_zero, zero_add, C10.idft_eq,
    ← sum_subset (range_mono (min_le_right y.length n))]
  · congr 1
    · simp
    · refine sum_congr rfl fun k hk => ?_
      have hn : n ≠ 0 := by have := mem_range.1 hk; omega
      rw [toC_cmul, toC_cis_rootPow, Int.natCast_mod, C10.rootPow_emod hn, Nat.cast_mul]
  · intro k hk hk'
    rw [List.getD_eq_default _ _ (by simp only [mem_range] at hk hk'; omega), toC_zero, zero_mul]

theorem toC_rfftToHilbert (xf : List (Cx ℝ)) (n j : ℕ) (hj : j < n) :
    toC ((rfftToHilbert tR 0 xf n)[j]'(by rw [rfftToHilbert_length]; exact hj))
      = C10.idft (fun k => (hilbertWeight n k : ℂ) * toC (xf.getD k (0, 0))) n j := by
  simp only [rfftToHilbert, List.getElem_map, List.getElem_range]
  rw [toC_idft]
  refine C10.idft_congr (fun k _ => ?_) _
  rcases Nat.lt_or_ge k xf.length with h | h
  · rw [List.getD_eq_getElem _ _ (by simpa using h)]
    simp only [List.getElem_map, List.getElem_range, toC_csmul, tR_ofNat, ofReal_natCast]
  · rw [List.getD_eq_default _ _ (by simpa using h), List.getD_eq_default _ _ h, toC_zero, mul_zero]

theorem toC_timeshift (x : List (Cx ℝ)) (freqs : List ℝ) (tau : ℝ) (k : ℕ)
    (hx : k < x.length) (hf : k < freqs.length) :
    toC ((timeshift tR x freqs tau)[k]'(by rw [timeshift_length]; omega))
      = toC x[k] * exp (-(2 * π * I * (freqs[k] * tau))) := by
  rw [timeshift_spec tR x freqs tau k hx hf, toC_cmul, toC_cis]
  congr 2
  simp only [tR_ofNat, tR_pi]
  push_cast
  ring

/-- on the DFT frequency grid `f_k = k/(n dt)` a delay of `m` samples, `τ = m dt`, multiplies
bin `k` by `e^{−2πi k m/n}` -/
theorem toC_timeshift_grid (x : List (Cx ℝ)) (freqs : List ℝ) (n : ℕ) (dt : ℝ) (hdt : dt ≠ 0)
    (m : ℤ) (hlen : x.length ≤ freqs.length)
    (hfreq : ∀ k (h : k < freqs.length), freqs[k] = (k : ℝ) / (n * dt)) (k : ℕ) :
    toC ((timeshift tR x freqs (m * dt)).getD k (0, 0))
      = toC (x.getD k (0, 0)) * exp (-(2 * π * I * (m * k / n))) := by
  rcases Nat.lt_or_ge k x.length with h | h
  · have hf : k < freqs.length := by omega
    have e : (k : ℝ) / (n * dt) * (m * dt) = m * k / n := by
      rw [div_mul_eq_mul_div, ← mul_assoc, mul_div_mul_right _ _ hdt, mul_comm]
    rw [List.getD_eq_getElem _ _ (by rw [timeshift_length]; omega), List.getD_eq_getElem _ _ h,
      toC_timeshift x freqs _ k h hf, hfreq k hf, ← ofReal_mul, e]
    push_cast
    rfl
  · rw [List.getD_eq_default _ _ (by rw [timeshift_length]; omega), List.getD_eq_default _ _ h, toC_zero,
      zero_mul]

theorem timeshift_zero (x : List (Cx ℝ)) (freqs : List ℝ) (hlen : x.length ≤ freqs.length) :
    timeshift tR x freqs 0 = x := by
  apply List.ext_getElem
  · rw [timeshift_length]; omega
  · intro k h1 h2
    rw [timeshift_spec tR x freqs 0 k h2 (by omega)]
    simp [cmul, cis]

end spectral

section placement
variable {K : Type} [Add K]

/-- NumPy's normalisation of a slice bound for an array of length `nOut` -/
def normIdx (nOut : ℤ) (i : ℤ) : ℤ := if i < 0 then max (i + nOut) 0 else min i nOut

theorem normIdx_of_nonneg {nOut i : ℤ} (h : 0 ≤ i) : normIdx nOut i = min i nOut := if_neg (not_lt.2 h)

theorem normIdx_of_neg {nOut i : ℤ} (h : i < 0) : normIdx nOut i = max (i + nOut) 0 := if_pos h

/-- a negative index counts from the end -/
theorem normIdx_add_length {nOut i : ℤ} (h : -nOut ≤ i) (h' : i < 0) : normIdx nOut (i + nOut) = normIdx nOut i := by
  rw [normIdx_of_neg h', normIdx_of_nonneg (by omega)]
  omega

/-- `place`, with the slice bounds named -/
theorem place_eq (out resp : List (Cx K)) (start : ℤ) :
    place out resp start =
      if normIdx out.length (start + resp.length) - normIdx out.length start ≠ resp.length then out
      else (List.zip (List.range out.length) out).map (fun (p : ℕ × Cx K) =>
        if normIdx out.length start ≤ (p.1 : ℤ) ∧ (p.1 : ℤ) < normIdx out.length (start + resp.length) then
          (match resp[((p.1 : ℤ) - normIdx out.length start).toNat]? with
           | some r => cadd p.2 r
           | none => p.2)
        else p.2) := rfl

theorem place_length (out resp : List (Cx K)) (start : ℤ) :
    (place out resp start).length = out.length := by
  rw [place_eq]
  split_ifs <;> simp

theorem place_of_ne (out resp : List (Cx K)) (start : ℤ)
    (h : normIdx out.length (start + resp.length) - normIdx out.length start ≠ resp.length) :
    place out resp start = out := by
  rw [place_eq, if_pos h]

/-- `lo` and `hi` are variables so that a caller gives the normalised bounds in the form it has them -/
theorem getElem_place (out resp : List (Cx K)) (start lo hi : ℤ) (hlo : normIdx out.length start = lo)
    (hhi : normIdx out.length (start + resp.length) = hi) (h : hi - lo = resp.length) (i : ℕ)
    (hi' : i < out.length) :
    (place out resp start)[i]'(by rw [place_length]; exact hi')
      = if h' : lo ≤ (i : ℤ) ∧ (i : ℤ) < hi
        then cadd out[i] (resp[((i : ℤ) - lo).toNat]'(by omega)) else out[i] := by
  have hP := place_eq out resp start
  rw [hlo, hhi, if_neg (not_not.2 h)] at hP
  simp only [hP, List.getElem_map, List.getElem_zip, List.getElem_range]
  split_ifs with h'
  · rw [List.getElem?_eq_getElem (by omega)]
  · rfl

end placement

end Arim.TDLemmas
