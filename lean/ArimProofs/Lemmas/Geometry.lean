import ArimModel.Geometry
import Mathlib.Tactic.Ring
import Mathlib.Tactic.LinearCombination
import Mathlib.LinearAlgebra.Matrix.SemiringInverse
import Mathlib.LinearAlgebra.Matrix.Notation
/-! # The algebra of the model's 3-vectors and 3×3 matrices (used by C17, C05, C16)

`dot`, `vadd`, `vsub`, `cross`, `mulVec`, `vecMul`, `mmul`, `transpose` over a commutative ring. Everything about
orthonormal matrices rests on `orthonormal_iff` (`Orthonormal b ↔ B Bᵀ = 1`) and on one fact taken from Mathlib through
the bridge `toMatrix`: a one-sided inverse of a square matrix is two-sided (`mmul_eq_one_comm`).
Also: indexing into a `flatMap` whose pieces all have the same length (row-major flattening).
The lemmas about the zero vector at the top are in namespace `Arim.C16` because statements of C16 mention `C16.zero3`;
everything else is in `Arim.C17`. -/
namespace Arim.C16
open Arim Arim.Geo
variable {K : Type} [CommRing K]

def zero3 : P3 K := ⟨0, 0, 0⟩

theorem vsub_zero3 (a : P3 K) : vsub a zero3 = a := by
  simp only [zero3, vsub, sub_zero]

theorem vsub_self (a : P3 K) : vsub a a = zero3 := by
  simp only [zero3, vsub, sub_self]

theorem vadd_zero3 (a : P3 K) : vadd zero3 a = a := by
  simp only [zero3, vadd, zero_add]

theorem vsub_vsub (a d e : P3 K) : vsub (vsub a d) e = vsub a (vadd d e) := by
  simp only [vsub, vadd, sub_sub]

theorem mulVec_zero3 (r : M3 K) : mulVec r zero3 = zero3 := by
  simp only [mulVec, zero3, dot, mul_zero, add_zero]

end Arim.C16

namespace Arim.C17
open Arim Arim.Geo

section algebra
variable {K : Type} [CommRing K]

/-- the rows of `b` are orthonormal -/
structure Orthonormal (b : M3 K) : Prop where
  n0 : dot b.r0 b.r0 = 1
  n1 : dot b.r1 b.r1 = 1
  n2 : dot b.r2 b.r2 = 1
  o01 : dot b.r0 b.r1 = 0
  o02 : dot b.r0 b.r2 = 0
  o12 : dot b.r1 b.r2 = 0

omit [CommRing K] in
@[ext] theorem P3.ext' {a b : P3 K} (hx : a.x = b.x) (hy : a.y = b.y) (hz : a.z = b.z) : a = b := by
  cases a; cases b; simp_all

/-- squared norm: isometries are stated as equalities between `nsq` of differences, so that neither a square root nor
an order is needed and a commutative ring suffices -/
def nsq (v : P3 K) : K := dot v v

/-- the triple product of the rows: `det m = 1` is what makes an orthonormal matrix a proper rotation, one that also
preserves cross products (`cross_rotate`) -/
def det (m : M3 K) : K := dot m.r0 (cross m.r1 m.r2)

/-- the identity matrix, the right side of `orthonormal_iff` (`B Bᵀ = 1`) -/
def one : M3 K := ⟨⟨1, 0, 0⟩, ⟨0, 1, 0⟩, ⟨0, 0, 1⟩⟩

theorem dot_comm (a b : P3 K) : dot a b = dot b a := by simp only [dot]; ring

theorem dot_vsub_right (a v w : P3 K) : dot a (vsub v w) = dot a v - dot a w := by
  simp only [dot, vsub]; ring

theorem dot_vadd_right (a v w : P3 K) : dot a (vadd v w) = dot a v + dot a w := by
  simp only [dot, vadd]; ring

theorem vsub_vsub_cancel (p p' o : P3 K) : vsub (vsub p o) (vsub p' o) = vsub p p' := by
  simp only [vsub, sub_sub_sub_cancel_right]

theorem vadd_vsub_cancel_right (p p' o : P3 K) : vsub (vadd p o) (vadd p' o) = vsub p p' := by
  simp only [vsub, vadd, add_sub_add_right_eq_sub]

theorem vadd_vsub (x y : P3 K) : vadd (vsub x y) y = x := by
  simp only [vsub, vadd, sub_add_cancel]

theorem vsub_vadd (x y : P3 K) : vsub (vadd x y) y = x := by
  simp only [vsub, vadd, add_sub_cancel_right]

theorem vadd_vsub_cancel (x y : P3 K) : vadd y (vsub x y) = x := by
  simp only [vsub, vadd, add_sub_cancel]

theorem vadd_vsub_left (x y : P3 K) : vsub (vadd x y) x = y := by
  simp only [vsub, vadd, add_sub_cancel_left]

theorem dot_scale (k : K) (v w : P3 K) : dot v ⟨k * w.x, k * w.y, k * w.z⟩ = k * dot v w := by
  simp only [dot]; ring

theorem vsub_scale (k : K) (a b : P3 K) :
    vsub ⟨k * a.x, k * a.y, k * a.z⟩ ⟨k * b.x, k * b.y, k * b.z⟩ =
      ⟨k * (vsub a b).x, k * (vsub a b).y, k * (vsub a b).z⟩ := by
  simp only [vsub, mul_sub]

/-- Lagrange's identity -/
theorem cross_nsq (i j : P3 K) :
    dot (cross i j) (cross i j) = dot i i * dot j j - dot i j * dot i j := by
  simp only [dot, cross]; ring

theorem dot_cross_left (i j : P3 K) : dot i (cross i j) = 0 := by
  simp only [dot, cross]; ring
theorem dot_cross_right (i j : P3 K) : dot j (cross i j) = 0 := by
  simp only [dot, cross]; ring

theorem mulVec_vsub (m : M3 K) (v w : P3 K) : vsub (mulVec m v) (mulVec m w) = mulVec m (vsub v w) := by
  simp only [mulVec, dot_vsub_right]; rfl

theorem mulVec_vadd (m : M3 K) (v w : P3 K) : vadd (mulVec m v) (mulVec m w) = mulVec m (vadd v w) := by
  simp only [mulVec, dot_vadd_right]; rfl

theorem mulVec_scale (m : M3 K) (k : K) (v : P3 K) :
    mulVec m ⟨k * v.x, k * v.y, k * v.z⟩ = ⟨k * (mulVec m v).x, k * (mulVec m v).y, k * (mulVec m v).z⟩ := by
  simp only [mulVec, dot_scale]

theorem one_mulVec (v : P3 K) : mulVec one v = v := by
  simp only [mulVec, one, dot, one_mul, zero_mul, add_zero, zero_add]

omit [CommRing K] in
theorem transpose_transpose (b : M3 K) : b.transpose.transpose = b := rfl

theorem vecMul_transpose (v : P3 K) (m : M3 K) : vecMul v m.transpose = mulVec m v := by
  simp only [mulVec, dot_comm _ v]; rfl

theorem mulVec_transpose (m : M3 K) (v : P3 K) : mulVec m.transpose v = vecMul v m :=
  (vecMul_transpose v m.transpose).symm

theorem dot_vecMul_left (w : P3 K) (m : M3 K) (v : P3 K) : dot (vecMul w m) v = dot w (mulVec m v) := by
  simp only [mulVec, vecMul, dot, M3.col0, M3.col1, M3.col2]; ring

theorem dot_mulVec_left (m : M3 K) (v w : P3 K) : dot (mulVec m v) w = dot v (vecMul w m) := by
  rw [dot_comm, ← dot_vecMul_left, dot_comm]

theorem mulVec_mmul (a b : M3 K) (v : P3 K) : mulVec (mmul a b) v = mulVec a (mulVec b v) := by
  simp only [mmul, mulVec, dot_vecMul_left]

theorem vecMul_unit0 (m : M3 K) : vecMul ⟨1, 0, 0⟩ m = m.r0 := by
  simp only [vecMul, dot, M3.col0, M3.col1, M3.col2, one_mul, zero_mul, add_zero]
theorem vecMul_unit1 (m : M3 K) : vecMul ⟨0, 1, 0⟩ m = m.r1 := by
  simp only [vecMul, dot, M3.col0, M3.col1, M3.col2, one_mul, zero_mul, add_zero, zero_add]
theorem vecMul_unit2 (m : M3 K) : vecMul ⟨0, 0, 1⟩ m = m.r2 := by
  simp only [vecMul, dot, M3.col0, M3.col1, M3.col2, one_mul, zero_mul, zero_add]

theorem transpose_mmul (a b : M3 K) : (mmul a b).transpose = mmul b.transpose a.transpose := by
  simp only [mmul, vecMul_transpose]; rfl

/-- the bridge to Mathlib's matrices, crossed for one fact only: a one-sided inverse of a square matrix is two-sided
(`mmul_eq_one_comm`) -/
def toMatrix (m : M3 K) : Matrix (Fin 3) (Fin 3) K :=
  !![m.r0.x, m.r0.y, m.r0.z; m.r1.x, m.r1.y, m.r1.z; m.r2.x, m.r2.y, m.r2.z]

theorem toMatrix_mmul (a b : M3 K) : toMatrix (mmul a b) = toMatrix a * toMatrix b :=
  (Matrix.mul_fin_three ..).symm

omit [CommRing K] in
theorem toMatrix_transpose (a : M3 K) : toMatrix a.transpose = (toMatrix a).transpose :=
  (Matrix.eta_fin_three (toMatrix a).transpose).symm

theorem toMatrix_one : toMatrix (one : M3 K) = 1 := Matrix.one_fin_three.symm

omit [CommRing K] in
theorem toMatrix_injective : Function.Injective (toMatrix : M3 K → _) := fun _ _ h =>
  congrArg (fun A : Matrix (Fin 3) (Fin 3) K =>
    (⟨⟨A 0 0, A 0 1, A 0 2⟩, ⟨A 1 0, A 1 1, A 1 2⟩, ⟨A 2 0, A 2 1, A 2 2⟩⟩ : M3 K)) h

theorem mmul_eq_one_comm {a b : M3 K} : mmul a b = one ↔ mmul b a = one := by
  simp only [← toMatrix_injective.eq_iff, toMatrix_mmul, toMatrix_one]
  exact mul_eq_one_comm

theorem mmul_transpose (a b : M3 K) : mmul a b.transpose =
    ⟨⟨dot a.r0 b.r0, dot a.r0 b.r1, dot a.r0 b.r2⟩, ⟨dot a.r1 b.r0, dot a.r1 b.r1, dot a.r1 b.r2⟩,
      ⟨dot a.r2 b.r0, dot a.r2 b.r1, dot a.r2 b.r2⟩⟩ := rfl

theorem orthonormal_iff (b : M3 K) : Orthonormal b ↔ mmul b b.transpose = one := by
  rw [mmul_transpose, dot_comm b.r1 b.r0, dot_comm b.r2 b.r0, dot_comm b.r2 b.r1]
  simp only [one, M3.mk.injEq, P3.mk.injEq]
  exact ⟨fun ⟨n0, n1, n2, o01, o02, o12⟩ => ⟨⟨n0, o01, o02⟩, ⟨o01, n1, o12⟩, ⟨o02, o12, n2⟩⟩,
    fun ⟨⟨n0, o01, o02⟩, ⟨_, n1, o12⟩, ⟨_, _, n2⟩⟩ => ⟨n0, n1, n2, o01, o02, o12⟩⟩

theorem orthonormal_iff_toMatrix (b : M3 K) :
    Orthonormal b ↔ toMatrix b * (toMatrix b).transpose = 1 := by
  rw [orthonormal_iff, ← toMatrix_injective.eq_iff, toMatrix_mmul, toMatrix_transpose, toMatrix_one]

theorem orthonormal_transpose (b : M3 K) (h : Orthonormal b) : Orthonormal b.transpose := by
  rw [orthonormal_iff] at h ⊢
  exact mmul_eq_one_comm.1 h

theorem mulVec_vecMul {b : M3 K} (h : Orthonormal b) (c : P3 K) : mulVec b (vecMul c b) = c := by
  rw [← mulVec_transpose, ← mulVec_mmul, (orthonormal_iff b).1 h, one_mulVec]

theorem vecMul_mulVec {b : M3 K} (h' : Orthonormal b.transpose) (v : P3 K) :
    vecMul (mulVec b v) b = v := by
  rw [← vecMul_transpose, ← mulVec_transpose]; exact mulVec_vecMul h' v

theorem dot_mulVec (m : M3 K) (v w : P3 K) (h' : Orthonormal m.transpose) :
    dot (mulVec m v) (mulVec m w) = dot v w := by
  rw [dot_mulVec_left, vecMul_mulVec h']

theorem nsq_mulVec (m : M3 K) (v : P3 K) (h' : Orthonormal m.transpose) :
    nsq (mulVec m v) = nsq v := dot_mulVec m v v h'

theorem dot_vecMul (v w : P3 K) (b : M3 K) (h : Orthonormal b) :
    dot (vecMul v b) (vecMul w b) = dot v w := by
  rw [← mulVec_transpose, ← mulVec_transpose]; exact dot_mulVec b.transpose v w h

theorem Orthonormal.mulVec_r0 {m : M3 K} (h : Orthonormal m) : mulVec m m.r0 = ⟨1, 0, 0⟩ := by
  rw [mulVec, h.n0, dot_comm, h.o01, dot_comm, h.o02]
theorem Orthonormal.mulVec_r1 {m : M3 K} (h : Orthonormal m) : mulVec m m.r1 = ⟨0, 1, 0⟩ := by
  rw [mulVec, h.o01, h.n1, dot_comm, h.o12]
theorem Orthonormal.mulVec_r2 {m : M3 K} (h : Orthonormal m) : mulVec m m.r2 = ⟨0, 0, 1⟩ := by
  rw [mulVec, h.o02, h.o12, h.n2]

theorem mulVec_mmul_transpose_rows (a : M3 K) {d : M3 K} (h : Orthonormal d) :
    mulVec (mmul a.transpose d) d.r0 = a.r0 ∧ mulVec (mmul a.transpose d) d.r1 = a.r1 ∧
      mulVec (mmul a.transpose d) d.r2 = a.r2 := by
  simp only [mulVec_mmul, mulVec_transpose, h.mulVec_r0, h.mulVec_r1, h.mulVec_r2, vecMul_unit0, vecMul_unit1,
    vecMul_unit2, and_self]

/-- the rows of `A B` are the rows of `A` mapped by `v ↦ v B`, which preserves dot products -/
theorem mmul_orthonormal_rows (a b : M3 K) (ha : Orthonormal a) (hb : Orthonormal b) :
    Orthonormal (mmul a b) :=
  have e := fun v w => dot_vecMul v w b hb
  ⟨(e _ _).trans ha.n0, (e _ _).trans ha.n1, (e _ _).trans ha.n2,
    (e _ _).trans ha.o01, (e _ _).trans ha.o02, (e _ _).trans ha.o12⟩

theorem det_transpose (a : M3 K) : det a.transpose = det a := by
  simp only [det, dot, cross, M3.transpose, M3.col0, M3.col1, M3.col2]; ring

/-- `(M a × M b) M = det M · (a × b)` for every matrix `M`: its cofactor matrix acts on cross products -/
theorem vecMul_cross_mulVec (m : M3 K) (a b : P3 K) :
    vecMul (cross (mulVec m a) (mulVec m b)) m =
      ⟨det m * (cross a b).x, det m * (cross a b).y, det m * (cross a b).z⟩ := by
  obtain ⟨⟨a1, a2, a3⟩, ⟨b1, b2, b3⟩, ⟨c1, c2, c3⟩⟩ := m
  obtain ⟨x, y, z⟩ := a
  obtain ⟨x', y', z'⟩ := b
  apply P3.ext' <;> simp only [vecMul, mulVec, det, cross, dot, M3.col0, M3.col1, M3.col2] <;> ring

/-- the rows of `A B` are `Bᵀ` applied to the rows of `A`, and the cofactor identity for `Bᵀ` takes `Bᵀ` out of the
    triple product -/
theorem det_mmul (a b : M3 K) : det (mmul a b) = det a * det b := by
  show dot (vecMul a.r0 b) (cross (vecMul a.r1 b) (vecMul a.r2 b)) = _
  rw [← mulVec_transpose, ← mulVec_transpose, ← mulVec_transpose, dot_mulVec_left, vecMul_cross_mulVec,
    dot_scale, det_transpose, mul_comm]
  rfl

theorem cross_mulVec_mulVec {m : M3 K} (h : Orthonormal m) (a b : P3 K) :
    cross (mulVec m a) (mulVec m b) =
      mulVec m ⟨det m * (cross a b).x, det m * (cross a b).y, det m * (cross a b).z⟩ := by
  rw [← vecMul_cross_mulVec, mulVec_vecMul h]

theorem rotate_centre_fixed (r : M3 K) (o : P3 K) : rotate o r (some o) = o := by
  rw [rotate, C16.vsub_self, C16.mulVec_zero3, C16.vadd_zero3]

theorem rotate_vsub (c c' : P3 K) (r : M3 K) (centre : Option (P3 K)) :
    vsub (rotate c r centre) (rotate c' r centre) = mulVec r (vsub c c') := by
  cases centre with
  | none => simp only [rotate, mulVec_vsub]
  | some o => simp only [rotate, vadd_vsub_cancel_right, mulVec_vsub, vsub_vsub_cancel]

theorem rotate_isometry (c c' : P3 K) (r : M3 K) (centre : Option (P3 K))
    (h' : Orthonormal r.transpose) :
    nsq (vsub (rotate c r centre) (rotate c' r centre)) = nsq (vsub c c') := by
  rw [rotate_vsub, nsq_mulVec _ _ h']

theorem rotate_isometry' (c c' : P3 K) (r : M3 K) (centre : Option (P3 K)) (h : Orthonormal r) :
    nsq (vsub (rotate c r centre) (rotate c' r centre)) = nsq (vsub c c') :=
  rotate_isometry c c' r centre (orthonormal_transpose r h)

theorem frame_orthonormal (i j : P3 K) (hi : dot i i = 1) (hj : dot j j = 1) (hij : dot i j = 0) :
    Orthonormal ⟨i, j, cross i j⟩ := by
  refine ⟨hi, hj, ?_, hij, dot_cross_left _ _, dot_cross_right _ _⟩
  show dot (cross i j) (cross i j) = 1
  rw [cross_nsq, hi, hj, hij, mul_one, mul_zero, sub_zero]

theorem frame_det (i j : P3 K) (hi : dot i i = 1) (hj : dot j j = 1) (hij : dot i j = 0) :
    det ⟨i, j, cross i j⟩ = 1 := by
  have e : det ⟨i, j, cross i j⟩ = dot (cross i j) (cross i j) := by
    simp only [det, dot, cross]; ring
  rw [e, cross_nsq, hi, hj, hij, mul_one, mul_zero, sub_zero]

/-- `CoordinateSystem.convert_from_gcs` is `from_gcs` with the basis vectors as rows -/
theorem cs_fromGcs_eq (cs : CS K) (p : P3 K) : cs.fromGcs p = fromGcs p cs.rows cs.origin := by
  simp only [CS.fromGcs, fromGcs, vecMul_transpose]

theorem cs_rotate_eq (cs : CS K) (r : M3 K) (centre : Option (P3 K)) :
    cs.rotate r centre = ⟨rotate cs.origin r centre, mulVec r cs.i, mulVec r cs.j⟩ := by
  show CS.mk _ _ _ = _
  rw [rotate_vsub, rotate_vsub, vadd_vsub_left, vadd_vsub_left]

theorem rotX_orthonormal (c s : K) (h : c * c + s * s = 1) : Orthonormal (rotX 0 1 c s) := by
  constructor <;> simp only [rotX, dot]
  · ring
  · linear_combination h
  · linear_combination h
  · ring
  · ring
  · ring

theorem rotY_orthonormal (c s : K) (h : c * c + s * s = 1) : Orthonormal (rotY 0 1 c s) := by
  constructor <;> simp only [rotY, dot]
  · linear_combination h
  · ring
  · linear_combination h
  · ring
  · ring
  · ring

theorem rotZ_orthonormal (c s : K) (h : c * c + s * s = 1) : Orthonormal (rotZ 0 1 c s) := by
  constructor <;> simp only [rotZ, dot]
  · linear_combination h
  · linear_combination h
  · ring
  · ring
  · ring
  · ring

theorem rotX_det (c s : K) (h : c * c + s * s = 1) : det (rotX 0 1 c s) = 1 := by
  simp only [det, rotX, dot, cross]; linear_combination h

theorem rotY_det (c s : K) (h : c * c + s * s = 1) : det (rotY 0 1 c s) = 1 := by
  simp only [det, rotY, dot, cross]; linear_combination h

theorem rotZ_det (c s : K) (h : c * c + s * s = 1) : det (rotZ 0 1 c s) = 1 := by
  simp only [det, rotZ, dot, cross]; linear_combination h

end algebra

section flat
theorem flatMap_uniform_length {β γ : Type} (f : β → List γ) (m : Nat) (hf : ∀ x, (f x).length = m)
    (xs : List β) : (xs.flatMap f).length = xs.length * m := by
  induction xs with
  | nil => simp
  | cons x xs ih => simp [List.flatMap_cons, ih, hf, Nat.succ_mul, Nat.add_comm]

theorem flatMap_uniform_getElem? {β γ : Type} (f : β → List γ) (m : Nat) (hf : ∀ x, (f x).length = m)
    (xs : List β) (i j : Nat) (hi : i < xs.length) (hj : j < m) :
    (xs.flatMap f)[i * m + j]? = (f xs[i])[j]? := by
  induction xs generalizing i with
  | nil => simp at hi
  | cons x xs ih =>
    rw [List.flatMap_cons]
    cases i with
    | zero =>
      simp only [Nat.zero_mul, Nat.zero_add, List.getElem_cons_zero]
      rw [List.getElem?_append_left (by rw [hf]; exact hj)]
    | succ i =>
      rw [List.getElem?_append_right (by rw [hf, Nat.succ_mul]; omega), hf, List.getElem_cons_succ,
        ← ih i (Nat.lt_of_succ_lt_succ hi), Nat.succ_mul, Nat.add_right_comm, Nat.add_sub_cancel]
end flat

-- test vectors over `ℚ` are decided
deriving instance DecidableEq for P3, M3, CS

end Arim.C17
