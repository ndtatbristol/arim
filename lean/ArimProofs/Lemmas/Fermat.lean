import ArimModel.Fermat
import ArimModel.FermatCache
import ArimProofs.Lemmas.MinPlus
import Mathlib.Order.Basic
import Mathlib.Data.List.Basic
import Mathlib.Data.List.Forall2
import Mathlib.Algebra.Group.Defs
import Mathlib.Order.Defs.LinearOrder
import Mathlib.Algebra.Order.Monoid.Unbundled.Basic
/-! Helper lemmas for C01: what the solver's scan returns (`scanMinR`, `extendTbl`) and how it is the min-plus
    scan of `Lemmas/MinPlus.lean`; the memoising solver `solveCR` (invariant, stored keys); paths in path order
    (`solveP`, `costP`) and their reversal. -/
namespace Arim

/-- validity of an index tuple (reverse order) against leg sizes: the candidate rays among which `solve_optimal` says the
solver's is fastest -/
def validR {α : Type} : List (Leg α) → List Nat → Prop
  | [], [] => True
  | l :: prev, k :: ks => k < l.m ∧ validR prev ks
  | _, _ => False

/-- no interface is empty: through an empty one there is no ray and the solver has nothing to return -/
def allPos {α : Type} : List (Leg α) → Prop
  | [] => True
  | l :: prev => 0 < l.m ∧ allPos prev

section Struct
variable {β : Type} [LT β] [DecidableLT β]

theorem scanMinR_succ (f : Nat → Res β) (m : Nat) :
    scanMinR f (m+1) = (match f m with
      | none => scanMinR f m
      | some (v, ks) => match scanMinR f m with
        | none => some (v, ks ++ [m])
        | some (b, kb) => if v < b then some (v, ks ++ [m]) else some (b, kb)) := by
  rw [scanMinR, List.range_succ, List.foldl_append]; rfl

theorem scanMinR_succ_cases (f : Nat → Res β) (m : Nat) :
    scanMinR f (m+1) = scanMinR f m ∨
      ∃ v ks, f m = some (v, ks) ∧ scanMinR f (m+1) = some (v, ks ++ [m]) := by
  rw [scanMinR_succ]
  cases f m with
  | none => exact .inl rfl
  | some p =>
    cases scanMinR f m with
    | none => exact .inr ⟨_, _, rfl, rfl⟩
    | some q =>
      dsimp only
      split
      · exact .inr ⟨_, _, rfl, rfl⟩
      · exact .inl rfl

theorem scanMinR_some {f : Nat → Res β} {m : Nat} {v : β} {r : List Nat}
    (h : scanMinR f m = some (v, r)) :
    ∃ k ks, k < m ∧ r = ks ++ [k] ∧ f k = some (v, ks) := by
  induction m with
  | zero => cases h
  | succ m ih =>
    rcases scanMinR_succ_cases f m with e | ⟨v', ks, hfm, e⟩
    · obtain ⟨k, ks, hk, hr⟩ := ih (e ▸ h)
      exact ⟨k, ks, Nat.lt_succ_of_lt hk, hr⟩
    · cases h.symm.trans e
      exact ⟨m, ks, m.lt_succ_self, rfl, hfm⟩

/-- when every candidate is defined, the solver's scan is the kernel's scan (`find_minimum_times`)
with the winner's ray carried along and extended by the winning index (`expand_rays`) -/
theorem scanMinR_eq_scanMin (v : Nat → β) (ks : Nat → List Nat) (m : Nat) :
    scanMinR (fun k => some (v k, ks k)) m = (scanMin v m).map fun p => (p.1, ks p.2 ++ [p.2]) := by
  induction m with
  | zero => rfl
  | succ m ih =>
    rw [scanMinR_succ, scanMin_succ, ih]
    cases scanMin v m with
    | none => rfl
    | some p => simp only [Option.map_some, kstep]; split <;> rfl

variable [Add β]

/-- `solveR first (l :: prev)` is `extendTbl (solveR first prev) l`, so this also takes one step of
`solveR` apart -/
theorem extendTbl_some {h : Tbl β} {l : Leg β} {i j : Nat} {v : β} {r : List Nat}
    (e : extendTbl h l i j = some (v, r)) :
    ∃ k ks v', k < l.m ∧ r = ks ++ [k] ∧ h i k = some (v', ks) ∧ v = v' + l.t k j := by
  obtain ⟨k, ks, hk, hr, hf⟩ := scanMinR_some e
  obtain ⟨p, hp, hf⟩ := Option.map_eq_some_iff.1 hf
  cases hf
  exact ⟨k, p.2, p.1, hk, hr, hp, rfl⟩

end Struct

section CacheL
variable {β : Type}

/-- the paths stored in the `cached_result` dict, newest first -/
def keysOf (c : Cache β) : List PKey := c.map (·.1)

/-- with a path the dict holds its prefixes (`2 ≤`: one-leg paths are never stored): so is every dict the solver builds
from the empty one, and then the stored keys are known exactly (`C01.solveC_keys_of_prefixClosed`) -/
def PrefixClosed (keys : List PKey) : Prop :=
  ∀ q, q ∈ keys → ∀ p, p <+: q → 2 ≤ p.length → p ∈ keys

theorem PrefixClosed.of_mem_iff {K K' : List PKey} {key : PKey} (hcl : PrefixClosed K)
    (h : ∀ p, p ∈ K' ↔ p ∈ K ∨ (p <+: key ∧ 2 ≤ p.length)) : PrefixClosed K' :=
  fun q hq p hpq hp => (h p).2 <|
    ((h q).1 hq).imp (fun hq => hcl q hq p hpq hp) fun hq => ⟨hpq.trans hq.1, hp⟩

theorem mem_keysOf {c : Cache β} {k : PKey} : k ∈ keysOf c ↔ ∃ t, (k, t) ∈ c := by
  simp only [keysOf, List.mem_map, Prod.exists, exists_and_right, exists_eq_right]

theorem lookup_some_mem {c : Cache β} {k : PKey} {t : Tbl β} (h : c.lookup k = some t) :
    (k, t) ∈ c := by
  obtain ⟨l₁, l₂, rfl, -⟩ := List.lookup_eq_some_iff.1 h
  exact List.mem_append_right _ List.mem_cons_self

theorem lookup_none_iff (c : Cache β) (k : PKey) : c.lookup k = none ↔ k ∉ keysOf c := by
  rw [List.lookup_eq_none_iff, mem_keysOf]
  exact ⟨fun h ⟨t, ht⟩ => by simpa using h _ ht,
    fun h p hp => by simpa using fun e : k = p.1 => h ⟨p.2, e ▸ hp⟩⟩

variable [LT β] [DecidableLT β] [Add β]

/-- the invariant of the `cached_result` dict: a stored table is the table of its key solved alone, without a dict -/
def CacheInv (legOf : Nat → Leg β) (c : Cache β) : Prop :=
  ∀ k tbl, (k, tbl) ∈ c → tbl = solvePure legOf k

theorem solvePure_snoc (legOf : Nat → Leg β) (K : PKey) (hK : K ≠ []) (l : Nat) :
    solvePure legOf (K ++ [l]) = extendTbl (solvePure legOf K) (legOf l) := by
  cases K with
  | nil => exact absurd rfl hK
  | cons l0 rest =>
    funext i j
    simp only [solvePure, List.cons_append, List.map_append, List.map_cons, List.map_nil,
      List.reverse_append, List.reverse_cons, List.reverse_nil, List.nil_append, List.cons_append,
      solveR, extendTbl]

theorem solveCR_spec (legOf : Nat → Leg β) (rk : List Nat) (c : Cache β)
    (hc : CacheInv legOf c) :
    (solveCR legOf rk c).1 = solvePure legOf rk.reverse ∧ CacheInv legOf (solveCR legOf rk c).2 := by
  -- the cases of `solveCR`, here and below: 1 the empty key; 2, 3 one leg, found / not found in the dict; 4 a longer key
  -- found; 5 not found: the key without its last leg is solved first, then the result is stored
  fun_induction solveCR legOf rk c with
  | case1 | case3 => exact ⟨rfl, hc⟩
  | case2 _ _ _ hl | case4 _ _ _ _ _ hl => exact ⟨hc _ _ (lookup_some_mem hl), hc⟩
  | case5 l l' prev c hl r tbl ih =>
    obtain ⟨h1, h2⟩ := ih hc
    have htbl : tbl = solvePure legOf (l :: l' :: prev).reverse := by
      rw [List.reverse_cons (a := l), solvePure_snoc legOf _ (by simp), ← h1]
    refine ⟨htbl, fun k t hmem => ?_⟩
    rcases List.mem_cons.mp hmem with h | h
    · cases h; exact htbl
    · exact h2 k t h

theorem solveCR_suffix (legOf : Nat → Leg β) (rk : List Nat) (c : Cache β) :
    c <:+ (solveCR legOf rk c).2 := by
  fun_induction solveCR legOf rk c with
  | case1 | case2 | case3 | case4 => exact List.suffix_refl _
  | case5 l l' prev c hl r tbl ih => exact ih.trans (List.suffix_cons _ _)

/-- only `→` for an arbitrary dict: the recursion stops at the first hit, whether or not the shorter
prefixes are stored -/
theorem keys_solveCR_subset (legOf : Nat → Leg β) (rk : List Nat) (c : Cache β) (p : PKey)
    (hp : p ∈ keysOf (solveCR legOf rk c).2) :
    p ∈ keysOf c ∨ (p <+: rk.reverse ∧ 2 ≤ p.length) := by
  fun_induction solveCR legOf rk c with
  | case1 | case2 | case3 | case4 => exact .inl hp
  | case5 l l' prev c hl r tbl ih =>
    rcases List.mem_cons.1 hp with rfl | hp
    · exact .inr ⟨List.prefix_refl _, by simp⟩
    · exact (ih hp).imp_right fun ⟨h1, h2⟩ => ⟨h1.trans (by simp), h2⟩

theorem solveCR_nodup (legOf : Nat → Leg β) (rk : List Nat) (c : Cache β)
    (hn : (keysOf c).Nodup) : (keysOf (solveCR legOf rk c).2).Nodup := by
  fun_induction solveCR legOf rk c with
  | case1 | case2 | case3 | case4 => exact hn
  | case5 l l' prev c hl r tbl ih =>
    -- the new key was not stored (miss) and is longer than every key the recursive call adds
    refine List.nodup_cons.2 ⟨fun hmem => ?_, ih hn⟩
    rcases keys_solveCR_subset legOf _ c _ hmem with h | ⟨h, -⟩
    · exact (lookup_none_iff c _).1 hl h
    · simpa using h.length_le

/-- on a hit the shorter prefixes are there already because the dict is prefix-closed (as every dict
the solver builds from the empty one is) -/
theorem prefix_mem_keys_solveCR (legOf : Nat → Leg β) (rk : List Nat) (c : Cache β)
    (hcl : PrefixClosed (keysOf c)) (p : PKey) (h : p <+: rk.reverse) (h2 : 2 ≤ p.length) :
    p ∈ keysOf (solveCR legOf rk c).2 := by
  fun_induction solveCR legOf rk c with
  | case1 | case2 | case3 => exact (Nat.not_le.2 h2 (h.length_le.trans (by simp))).elim
  | case4 l l' prev c t hl => exact hcl _ (mem_keysOf.2 ⟨t, lookup_some_mem hl⟩) p h h2
  | case5 l l' prev c hl r tbl ih =>
    rw [List.reverse_cons] at h
    rcases List.prefix_concat_iff.1 h with rfl | h
    · rw [← List.reverse_cons]; exact List.mem_cons_self
    · exact List.mem_cons_of_mem _ (ih hcl h)

theorem keys_solveCR (legOf : Nat → Leg β) (rk : List Nat) (c : Cache β)
    (hcl : PrefixClosed (keysOf c)) (p : PKey) :
    p ∈ keysOf (solveCR legOf rk c).2 ↔ p ∈ keysOf c ∨ (p <+: rk.reverse ∧ 2 ≤ p.length) :=
  ⟨keys_solveCR_subset legOf rk c p, fun h => h.elim
    (fun h => ((solveCR_suffix legOf rk c).map _).subset h)
    fun h => prefix_mem_keys_solveCR legOf rk c hcl p h.1 h.2⟩
end CacheL

/-! The cost of a tuple along a path in path order can be taken apart at either end: at the last leg by
definition of `costR` (`costP_snoc`), at the first leg by associativity (`costP_cons`); and the first
leg of a path is the last leg of its reversal (`revPath_cons`). -/
section Rev
variable {β : Type}

theorem legsP_snoc : ∀ (ts : List (Nat → Nat → β)) (ms : List Nat) (t : Nat → Nat → β) (m : Nat),
    ts.length = ms.length → legsP (ts ++ [t]) (ms ++ [m]) = legsP ts ms ++ [{ m := m, t := t }]
  | [], [], _, _, _ => rfl
  | _ :: xs, _ :: b, t, m, h => congrArg (_ :: ·) (legsP_snoc xs b t m (Nat.succ.inj h))

theorem sizes_legsP : ∀ (rest : List (Nat → Nat → β)) (ms : List Nat),
    rest.length = ms.length → (legsP rest ms).map (·.m) = ms
  | [], [], _ => rfl
  | _ :: xs, a :: b, h => congrArg (a :: ·) (sizes_legsP xs b (Nat.succ.inj h))

theorem revPath_cons (t : Nat → Nat → β) (ts : List (Nat → Nat → β)) (m : Nat) (ms : List Nat) :
    revPath (t :: ts) (m :: ms) =
      ((revPath ts ms).1 ++ [transpose t], (revPath ts ms).2 ++ [m]) := by
  simp only [revPath, List.reverse_cons, List.map_append, List.map_cons, List.map_nil]

theorem revPath_length {ts : List (Nat → Nat → β)} {ms : List Nat} (h : ts.length = ms.length + 1) :
    (revPath ts ms).1.length = (revPath ts ms).2.length + 1 := by
  simpa only [revPath, List.length_map, List.length_reverse] using h

theorem validR_iff (L : List (Leg β)) (K : List Nat) :
    validR L K ↔ List.Forall₂ (fun m k => k < m) (L.map (·.m)) K := by
  induction L generalizing K with
  | nil => cases K <;> simp [validR]
  | cons l L ih => cases K with
    | nil => simp [validR]
    | cons k K => simp [validR, ih K]

theorem allPos_iff (L : List (Leg β)) : allPos L ↔ ∀ m, m ∈ L.map (·.m) → 0 < m := by
  induction L with
  | nil => simp only [allPos, List.map_nil, List.not_mem_nil, false_imp_iff, implies_true]
  | cons l L ih => simp only [allPos, ih, List.map_cons, List.mem_cons, forall_eq_or_imp]

/-- validity of a tuple given in PATH order against the interior sizes in path order: `validR` as the path-order
statements (`solveP`, `costP`) say it (`validR_legsP`) -/
def validP (ms ks : List Nat) : Prop := List.Forall₂ (fun m k => k < m) ms ks

theorem validP_reverse {ms ks : List Nat} : validP ms.reverse ks.reverse ↔ validP ms ks :=
  List.forall₂_reverse_iff

theorem validR_legsP (rest : List (Nat → Nat → β)) (ms ks : List Nat)
    (h : rest.length = ms.length) :
    validR (legsP rest ms).reverse ks.reverse ↔ validP ms ks := by
  rw [validR_iff, List.map_reverse, sizes_legsP rest ms h, List.forall₂_reverse_iff, validP]

theorem allPos_legsP (rest : List (Nat → Nat → β)) (ms : List Nat) (h : rest.length = ms.length)
    (hpos : ∀ m, m ∈ ms → 0 < m) : allPos (legsP rest ms).reverse := by
  rw [allPos_iff, List.map_reverse, sizes_legsP rest ms h]
  intro m hm; exact hpos m (List.mem_reverse.mp hm)

variable [Add β]

/-- the first leg split off a cost that `costR` accumulates from the other end -/
theorem costR_snoc (hassoc : ∀ a b c : β, a + b + c = a + (b + c))
    (t0 t1 : Nat → Nat → β) (m1 : Nat) (L : List (Leg β)) (i k1 : Nat) (K : List Nat) (j : Nat) :
    costR t0 (L ++ [{ m := m1, t := t1 }]) i (K ++ [k1]) j =
      (costR t1 L k1 K j).map (t0 i k1 + ·) := by
  induction L generalizing K j with
  | nil => cases K with
    | nil => rfl
    | cons a K => cases K <;> rfl
  | cons l L ih => cases K with
    | nil => cases L <;> rfl
    | cons k K =>
      simp only [List.cons_append, costR, ih, Option.map_map]
      exact congrArg (Option.map · _) (funext fun x => hassoc _ _ _)

/-- the last leg split off, by definition of `costR`. `h` is needed here and not in `costP_cons`: `legsP` pairs tables
and sizes from the front and drops what is left over of the longer list, so an appended `t`, `m` make a leg only if
the lists in front of them match in length, whereas a leg taken off the front leaves the same pairing on both sides -/
theorem costP_snoc (xs : List (Nat → Nat → β)) (ns : List Nat) (h : xs.length = ns.length + 1)
    (t : Nat → Nat → β) (m i : Nat) (q : List Nat) (k j : Nat) :
    costP (xs ++ [t]) (ns ++ [m]) i (q ++ [k]) j = (costP xs ns i q k).map (· + t k j) := by
  cases xs with
  | nil => cases h
  | cons x xs =>
    simp only [costP, List.cons_append, toR?, legsP_snoc xs ns t m (Nat.succ.inj h),
      List.reverse_append, List.reverse_cons, List.reverse_nil, List.nil_append, costR]

theorem costP_cons (hassoc : ∀ a b c : β, a + b + c = a + (b + c))
    (t0 t1 : Nat → Nat → β) (rest : List (Nat → Nat → β)) (m : Nat) (ms : List Nat)
    (i k : Nat) (ks : List Nat) (j : Nat) :
    costP (t0 :: t1 :: rest) (m :: ms) i (k :: ks) j =
      (costP (t1 :: rest) ms k ks j).map (t0 i k + ·) := by
  simp only [costP, toR?, legsP, List.reverse_cons, costR_snoc hassoc]

end Rev
end Arim
