import ArimModel.Weights
/-! The interior interfaces of a path as a list. `gammas` and `revGammas` walk the leg velocities two at a time
together with the incidence angles; `ifaces vels xs` is the list they walk, so that both are `map`s over it and the
reversal of a path is said once. Also the defining equations of `virtualDistance`, `beamspread`, `revBeamspread`.
Core only, for the tie modules. -/
namespace Arim.Weights

section list
variable {K α β : Type}

/-- the interior interfaces of a path, first to last: `(v_in, v_out, x)`, `x` being whatever is listed per interface -/
def ifaces (vels : List K) (xs : List α) : List (K × K × α) :=
  vels.dropLast.zip (vels.tail.zip xs)

@[simp] theorem ifaces_cons_cons (v0 v1 : K) (vs : List K) (x : α) (xs : List α) :
    ifaces (v0 :: v1 :: vs) (x :: xs) = (v0, v1, x) :: ifaces (v1 :: vs) xs := rfl

@[simp] theorem ifaces_nil_right (vels : List K) : ifaces vels ([] : List α) = [] := by
  simp only [ifaces, List.zip_nil_right]

theorem ifaces_length (vels : List K) (xs : List α) (h : xs.length + 1 = vels.length) :
    (ifaces vels xs).length = xs.length := by
  simp only [ifaces, List.length_zip, List.length_tail, List.length_dropLast]; omega

theorem ifaces_map_right (g : α → β) (vels : List K) (xs : List α) :
    ifaces vels (xs.map g) = (ifaces vels xs).map (Prod.map id (Prod.map id g)) := by
  simp only [ifaces, List.zip_map_right]

theorem ifaces_map_left (g : K → K) (vels : List K) (xs : List α) :
    ifaces (vels.map g) xs = (ifaces vels xs).map (Prod.map g (Prod.map g id)) := by
  rw [ifaces, ← List.map_tail, ← List.map_dropLast, List.zip_map_left (l₁ := vels.tail), List.zip_map]; rfl

theorem mem_of_mem_ifaces {vels : List K} {xs : List α} {i : K × K × α} (h : i ∈ ifaces vels xs) :
    i.1 ∈ vels ∧ i.2.1 ∈ vels ∧ i.2.2 ∈ xs :=
  have h1 := List.of_mem_zip h
  have h2 := List.of_mem_zip h1.2
  ⟨List.dropLast_subset _ h1.1, List.mem_of_mem_tail h2.1, h2.2⟩

theorem getElem_ifaces (vels : List K) (xs : List α) (k : Nat) (hk : k < (ifaces vels xs).length) :
    ∃ (h1 : k + 1 < vels.length) (h2 : k < xs.length),
      (ifaces vels xs)[k] = (vels[k]'(Nat.lt_of_succ_lt h1), vels[k + 1], xs[k]) := by
  simp only [ifaces, List.length_zip, List.length_tail, List.length_dropLast, Nat.lt_min] at hk
  exact ⟨Nat.add_lt_of_lt_sub hk.1, hk.2.2, by
    simp only [ifaces, List.getElem_zip, List.getElem_tail, List.getElem_dropLast]⟩

theorem zip_zip_swap : ∀ (as bs : List K) (xs : List α),
    bs.zip (as.zip xs) = (as.zip (bs.zip xs)).map fun i => (i.2.1, i.1, i.2.2)
  | [], _, _ | _ :: _, [], _ | _ :: _, _ :: _, [] => by simp
  | _ :: as, _ :: bs, _ :: xs => by simp [zip_zip_swap as bs xs]

/-- the reversed path meets the same interfaces in the opposite order, each from the other side -/
theorem ifaces_reverse (vels : List K) (xs : List α) (h : xs.length + 1 = vels.length) :
    ifaces vels.reverse xs.reverse = ((ifaces vels xs).map fun i => (i.2.1, i.1, i.2.2)).reverse := by
  have h1 : vels.dropLast.length = xs.length := by rw [List.length_dropLast]; omega
  have h2 : vels.tail.length = (List.zipWith Prod.mk vels.dropLast xs).length := by
    rw [List.length_zipWith, h1, List.length_tail]; omega
  -- reversal turns `dropLast` and `tail` into each other, and the reverse of a zip is the zip of the reverses when the
  -- lengths agree (`h1` for the inner zip, `h2` for the outer); what remains is to exchange the two zip layers
  unfold ifaces List.zip
  rw [List.dropLast_reverse, List.tail_reverse, ← List.reverse_zipWith h1, ← List.reverse_zipWith h2]
  exact congrArg _ (zip_zip_swap _ _ _)

/-- a path given by index queries, as the translated code has it: interface `k` lies between legs `k - 1` and `k` -/
theorem ifaces_range (vel : Nat → K) (x : Nat → α) (a m : Nat) :
    ifaces ((List.range' a (m + 1)).map vel) ((List.range' (a + 1) m).map x)
      = (List.range' (a + 1) m).map fun k => (vel (k - 1), vel k, x k) := by
  induction m generalizing a with
  | zero => rfl
  | succ m ih =>
    simp only [List.range'_succ, List.map_cons, ifaces_cons_cons, Nat.add_sub_cancel]
    exact congrArg _ (ih (a + 1))

end list

section gam
variable {K : Type} [Sub K] [Mul K] [Div K]

/-- the factor of one interface in `gammas` -/
def gammaF (t : RTrig K) (v0 v1 th : K) : K :=
  let nu := v0 / v1
  let s := t.sin th
  let c := t.cos th
  (nu * nu - s * s) / (nu * c * c)

/-- the factor of one interface in `revGammas` -/
def revGammaF (t : RTrig K) (vLast vPrev th : K) : K :=
  let nu := vLast / vPrev
  let s := t.sin th
  let c := t.cos th
  (nu * c * c) / (t.one - nu * nu * s * s)

theorem gammas_eq_map (t : RTrig K) : ∀ vels thetas : List K,
    gammas t vels thetas = (ifaces vels thetas).map fun i => gammaF t i.1 i.2.1 i.2.2
  | [], _ | [_], _ => rfl
  | _ :: _ :: _, [] => by rw [ifaces_nil_right]; rfl
  | v0 :: v1 :: vs, th :: ths => by rw [gammas, gammas_eq_map t (v1 :: vs) ths]; rfl

theorem revGammas_eq_map (t : RTrig K) : ∀ vels thetas : List K,
    revGammas t vels thetas = (ifaces vels thetas).map fun i => revGammaF t i.1 i.2.1 i.2.2
  | [], _ | [_], _ => rfl
  | _ :: _ :: _, [] => by rw [ifaces_nil_right]; rfl
  | v0 :: v1 :: vs, th :: ths => by rw [revGammas, revGammas_eq_map t (v1 :: vs) ths]; rfl

end gam

section beam
variable {K : Type} [Add K] [Mul K] [Div K]

theorem virtualDistance_cons (one r₁ : K) (rest gs : List K) :
    virtualDistance one (r₁ :: rest) gs =
      (List.range rest.length).foldl
        (fun acc k => acc + rest.getD k one / (gs.take (k + 1)).foldl (· * ·) one) r₁ := rfl

theorem virtualDistance_singleton (one r : K) (gs : List K) : virtualDistance one [r] gs = r := rfl

variable [Sub K]

theorem beamspread_eq (t : RTrig K) (legs vels thetas : List K) :
    beamspread t legs vels thetas = t.one / t.sqrt (virtualDistance t.one legs (gammas t vels thetas)) := rfl

theorem revBeamspread_eq (t : RTrig K) (legs vels thetas : List K) :
    revBeamspread t legs vels thetas =
      t.one / t.sqrt (virtualDistance t.one legs.reverse (revGammas t vels.reverse thetas.reverse)) := rfl

end beam

end Arim.Weights
