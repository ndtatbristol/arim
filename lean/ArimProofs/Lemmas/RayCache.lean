import ArimProofs.Lemmas.PyIndex
/-! Lemmas for C14 (ray-geometry cache model `ArimModel/RayCache.lean`).

A closed form `ans g m a` for the answer of a fresh object at the *normalised* index, an invariant `InvP` ("every
cached entry equals the closed form"), a contract `Sound` proved once per cached method, and from it one simulation
theorem for blocks of queries and for operations (`runQueries_sim`, `step_sim`).  The invariant is phrased with the
closed form because `spec`, a run of `query` itself, is only known to have that form once the contract is proved;
`Inv`, phrased with `spec`, is then equivalent to `InvP` for the current code. -/

namespace Arim.RayCache

@[simp] theorem lookup_nil (k : Key) : lookup [] k = none := rfl

theorem lookup_cons (k' : Key) (v : Cls) (c : List (Key × Cls)) (k : Key) :
    lookup ((k', v) :: c) k = if k' = k then some v else lookup c k := by
  simp only [lookup, List.find?_cons]
  split <;> simp_all

theorem lookup_filter_key (p : Key → Bool) (c : List (Key × Cls)) (k : Key) :
    lookup (c.filter (fun e => p e.1)) k = if p k then lookup c k else none := by
  rw [lookup, List.find?_filter]
  -- of the entries with key `k`, the filter keeps all or none
  have e : ∀ e : Key × Cls, decide (p e.1 = true ∧ (e.1 == k) = true) = (p k && e.1 == k) := fun e => by
    by_cases h : e.1 = k <;> simp [h]
  simp only [e]
  cases p k <;> simp [lookup]

theorem andThen_ok (v : Cls) (s : St) (k : Cls → St → Res × St) :
    andThen (.ok v, s) k = k v s := rfl

theorem andThen_error (e : Err) (s : St) (k : Cls → St → Res × St) :
    andThen (.error e, s) k = (.error e, s) := rfl

theorem andThen_ret (x : Res × St) : andThen x (fun v s => (.ok v, s)) = x := by
  obtain ⟨a, s⟩ := x
  cases a <;> rfl

/-- `inc_*`: `None` at the first interface -/
def incAns (a : Nat) : Res := if a = 0 then .ok .none else .ok .val
/-- `out_*`: `None` at the last interface -/
def outAns (n a : Nat) : Res := if a = n - 1 then .ok .none else .ok .val

/-- the answer of a fresh object for method `m` at the normalised index `a` -/
def ans (g : Geo) : Meth → Nat → Res
  | .legPoints, _ => .ok .val
  | .orient, _ => .ok .val
  | .incLegSize, a => incAns a
  | .incCart, a => incAns a
  | .incRadius, a => incAns a
  | .incPolar, a => incAns a
  | .incAzimuth, a => incAns a
  | .incAngle, a => incAns a
  | .signedInc, a => incAns a
  | .convInc, a =>
    if a = 0 then .ok .none else
    match g.incSide a with
    | Option.none => .error .value
    | some _ => .ok .val
  | .outCart, a => outAns g.n a
  | .outRadius, a => outAns g.n a
  | .outPolar, a => outAns g.n a
  | .outAzimuth, a => outAns g.n a
  | .outAngle, a => outAns g.n a
  | .signedOut, a => outAns g.n a
  | .convOut, a =>
    if a = g.n - 1 then .ok .none else
    match g.outSide a with
    | Option.none => .error .value
    | some _ => .ok .val

/-- closed form of the fresh-object answer at the raw index -/
def specN (g : Geo) (m : Meth) (r : Int) : Res :=
  match norm g.n r with
  | Option.none => .error .index
  | some a => ans g m a

theorem specN_some {g : Geo} {m : Meth} {r : Int} {a : Nat} (h : norm g.n r = some a) :
    specN g m r = ans g m a := by simp [specN, h]

theorem specN_none {g : Geo} {m : Meth} {r : Int} (h : norm g.n r = none) :
    specN g m r = .error .index := by simp [specN, h]

theorem incAns_zero {a : Nat} (h : a = 0) : incAns a = .ok .none := by simp [incAns, h]
theorem incAns_pos {a : Nat} (h : a ≠ 0) : incAns a = .ok .val := by simp [incAns, h]
theorem outAns_last {n a : Nat} (h : a = n - 1) : outAns n a = .ok .none := by simp [outAns, h]
theorem outAns_inner {n a : Nat} (h : a ≠ n - 1) : outAns n a = .ok .val := by simp [outAns, h]

theorem incAns_ok (a : Nat) : ∃ c, incAns a = .ok c := by
  unfold incAns; split <;> exact ⟨_, rfl⟩
theorem outAns_ok (n a : Nat) : ∃ c, outAns n a = .ok c := by
  unfold outAns; split <;> exact ⟨_, rfl⟩

/-- the cache is valid: an entry is what a fresh object answers at that index, so a hit never differs from a
recomputation -/
def InvP (g : Geo) (s : St) : Prop :=
  ∀ m a v, lookup s.cache (m, a) = some v → a < g.n ∧ ans g m a = .ok v

theorem invP_init (g : Geo) : InvP g {} := by
  intro m a v h; simp at h

theorem invP_of_cache_eq {g : Geo} {s t : St} (h : t.cache = s.cache) (hs : InvP g s) : InvP g t := by
  intro m a v hl; rw [h] at hl; exact hs m a v hl

theorem addFinal_cache (s : St) (k : Key) : (addFinal s k).cache = s.cache := by
  unfold addFinal; split <;> rfl

theorem promote_cache (fin : Bool) (s : St) (k : Key) :
    (if fin then addFinal s k else s).cache = s.cache := by
  split
  · exact addFinal_cache s k
  · rfl

theorem invP_insert {g : Geo} {s : St} {m : Meth} {a : Nat} {v : Cls} (hs : InvP g s)
    (ha : a < g.n) (hv : ans g m a = .ok v) :
    InvP g { s with cache := ((m, a), v) :: s.cache } := by
  intro m' a' v' hl
  rw [lookup_cons] at hl
  split at hl
  · next heq => cases heq; cases hl; exact ⟨ha, hv⟩
  · exact hs m' a' v' hl

/-- the outcome of a call on a valid state: it answers `res` and leaves a valid state; sequenced by `T_andThen` -/
def T (g : Geo) (x : Res × St) (res : Res) : Prop := x.1 = res ∧ InvP g x.2

theorem T_pure {g : Geo} {s : St} (hs : InvP g s) (res : Res) : T g (res, s) res := ⟨rfl, hs⟩

theorem T_andThen {g : Geo} {x : Res × St} {k : Cls → St → Res × St} {v : Cls} {res : Res}
    (hx : T g x (.ok v)) (hk : ∀ s, InvP g s → T g (k v s) res) : T g (andThen x k) res := by
  obtain ⟨a, s⟩ := x
  cases hx.1
  exact hk s hx.2

theorem T_andThen_error {g : Geo} {x : Res × St} {k : Cls → St → Res × St} {e : Err}
    (hx : T g x (.error e)) : T g (andThen x k) (.error e) := by
  obtain ⟨a, s⟩ := x
  cases hx.1
  exact ⟨rfl, hx.2⟩

/-- the half of `Sound` that concerns answers: `Q` is a correct cached method for `m`, at raw (possibly negative or
out-of-range) indices -/
def QOK (g : Geo) (m : Meth) (Q : St → Int → Bool → Res × St) : Prop :=
  ∀ s, InvP g s → ∀ r fin, T g (Q s r fin) (specN g m r)

/-- The decorator is transparent: if the body, run with the raw index on a valid state, answers the closed form at the
normalised index and keeps the state valid, so does the wrapped method.  A hit returns an entry that equals the closed
form by the invariant; a miss stores the body's answer, which is the closed form, under the normalised key. -/
theorem wrap_ok (g : Geo) (m : Meth) (body : St → Int → Res × St)
    (hb : ∀ s, InvP g s → ∀ r a, norm g.n r = some a → T g (body s r) (ans g m a)) :
    QOK g m (wrap g m body) := by
  intro s hs r fin
  -- the branches of `wrap`: index out of range; hit; miss and the body raises; miss and the body answers
  fun_cases wrap g m body s r fin
  · next hn => exact ⟨(specN_none hn).symm, hs⟩
  · next a hn k v hl => exact ⟨(specN_some hn ▸ (hs m a v hl).2).symm, invP_of_cache_eq (promote_cache ..) hs⟩
  · next a hn k _ e s' hx => exact specN_some hn ▸ hx ▸ hb s hs r a hn
  · next a hn k _ v s' hx s'' =>
    obtain ⟨h1, h2⟩ : T g (.ok v, s') (ans g m a) := hx ▸ hb s hs r a hn
    exact ⟨specN_some hn ▸ h1, invP_of_cache_eq (promote_cache ..) (invP_insert h2 (norm_lt hn) h1.symm)⟩

/-! ## finals only grow -/

def FinSub (s t : St) : Prop := ∀ k, k ∈ s.finals → k ∈ t.finals

theorem FinSub.refl (s : St) : FinSub s s := fun _ h => h
theorem FinSub.trans {s t u : St} (h1 : FinSub s t) (h2 : FinSub t u) : FinSub s u :=
  fun k h => h2 k (h1 k h)

theorem finSub_addFinal (s : St) (k : Key) : FinSub s (addFinal s k) := by
  intro k' h; unfold addFinal; split
  · exact h
  · exact List.mem_cons_of_mem _ h

theorem mem_addFinal (s : St) (k : Key) : k ∈ (addFinal s k).finals := by
  unfold addFinal; split
  · next h => simpa using h
  · exact List.mem_cons_self

theorem finSub_promote (fin : Bool) (s : St) (k : Key) : FinSub s (if fin then addFinal s k else s) := by
  split
  · exact finSub_addFinal s k
  · exact FinSub.refl s

theorem wrap_finSub (g : Geo) (m : Meth) (body : St → Int → Res × St)
    (hb : ∀ s r, FinSub s (body s r).2) (s : St) (r : Int) (fin : Bool) :
    FinSub s (wrap g m body s r fin).2 := by
  fun_cases wrap g m body s r fin
  · exact FinSub.refl s
  · exact finSub_promote _ _ _
  · next hx => exact hx ▸ hb s r
  · next s' hx s'' =>
    have h := hb s r
    rw [hx] at h
    exact h.trans (finSub_promote fin s'' _)

theorem andThen_finSub {s : St} {x : Res × St} {k : Cls → St → Res × St}
    (hx : FinSub s x.2) (hk : ∀ v s', FinSub s' (k v s').2) : FinSub s (andThen x k).2 := by
  obtain ⟨res, s'⟩ := x
  cases res with
  | error e => exact hx
  | ok v => exact hx.trans (hk v s')

/-! ## the contract of a cached method -/

/-- What C14 needs of a cached method `Q` of `RayGeometry` with key `m`: it never un-finalises a key (on any state, in
either version of the code), and on a valid state of the current code it answers the closed form and keeps the state
valid. -/
structure Sound (g : Geo) (m : Meth) (Q : St → Int → Bool → Res × St) : Prop where
  finals : ∀ s r fin, FinSub s (Q s r fin).2
  ok : g.rawZeroTest = false → QOK g m Q

section shapes
variable {g : Geo} {m m₁ m₂ : Meth} {Q₁ Q₂ : St → Int → Bool → Res × St}

/-- `Sound.ok` at an index in range: the form in which the `q*_sound` proofs use a sub-query -/
theorem Sound.some {Q : St → Int → Bool → Res × St} (hQ : Sound g m Q) (h : g.rawZeroTest = false) {s : St}
    (hs : InvP g s) {r : Int} {a : Nat} (hn : norm g.n r = some a) (fin : Bool) : T g (Q s r fin) (ans g m a) :=
  specN_some hn ▸ hQ.ok h s hs r fin

/-- a body without cached sub-queries that answers an array (`leg_points`, `orientations_of_legs_points`) -/
theorem Sound.leaf (ha : ∀ a, ans g m a = .ok .val) : Sound g m (wrap g m fun s _ => (.ok .val, s)) where
  finals := wrap_finSub _ _ _ fun s _ => FinSub.refl s
  ok _ := wrap_ok g _ _ fun _ hs _ a _ => ha a ▸ T_pure hs _

/-- a body that only asks another cached method at the same index, not as final (`inc_angle` is
`inc_leg_polar`), for a method with the same closed form -/
theorem Sound.alias (h₁ : Sound g m₁ Q₁) (ha : ∀ a, ans g m a = ans g m₁ a) :
    Sound g m (wrap g m fun s r => Q₁ s r false) where
  finals := wrap_finSub _ _ _ fun s r => h₁.finals s r false
  ok h := wrap_ok g _ _ fun _ hs _ a hn => ha a ▸ h₁.some h hs hn false

/-- the same with `if cartesian is None: return None` before the array is computed (`inc_leg_radius`, ...) -/
theorem Sound.aliasCls (h₁ : Sound g m₁ Q₁) (ha : ∀ a, ans g m a = ans g m₁ a) :
    Sound g m (wrap g m fun s r => andThen (Q₁ s r false) fun c s =>
      if c == .none then (.ok .none, s) else (.ok .val, s)) := by
  -- there are only two classes, so the test passes the sub-answer on
  have e : ∀ (c : Cls) (s : St), (if c == .none then ((.ok .none : Res), s) else (.ok .val, s)) = (.ok c, s) :=
    fun c _ => by cases c <;> rfl
  simpa only [e, andThen_ret] using h₁.alias ha

/-- the `None` guard followed by a second sub-query (`inc_leg_polar`: cartesian, then radius), when the three
methods have the same closed form: the second sub-query is only asked where it answers an array -/
theorem Sound.guard (h₁ : Sound g m₁ Q₁) (h₂ : Sound g m₂ Q₂) (ha₁ : ∀ a, ans g m a = ans g m₁ a)
    (ha₂ : ∀ a, ans g m a = ans g m₂ a) (hc : ∀ a, ∃ c, ans g m a = .ok c) :
    Sound g m (wrap g m fun s r => andThen (Q₁ s r false) fun c s =>
      if c == .none then (.ok .none, s) else andThen (Q₂ s r false) fun _ s => (.ok .val, s)) where
  finals := wrap_finSub _ _ _ fun s r => andThen_finSub (h₁.finals s r false) fun c s => by
    split
    · exact FinSub.refl _
    · exact andThen_finSub (h₂.finals s r false) fun _ _ => FinSub.refl _
  ok h := wrap_ok g _ _ fun s hs r a hn => by
    obtain ⟨c, hc⟩ := hc a
    have t₁ := h₁.some h hs hn false
    rw [← ha₁, hc] at t₁
    rw [hc]
    refine T_andThen t₁ fun s hs => ?_
    cases c
    · exact T_pure hs _
    · have t₂ := h₂.some h hs hn false
      rw [← ha₂, hc] at t₂
      exact T_andThen t₂ fun s hs => T_pure hs _

end shapes

theorem isFirst_current {g : Geo} (h : g.rawZeroTest = false) (r : Int) :
    isFirst g r = (norm g.n r == some 0) := by simp [isFirst, h]

theorem isFirst_eq {g : Geo} (h : g.rawZeroTest = false) {r : Int} {a : Nat}
    (hn : norm g.n r = some a) : isFirst g r = decide (a = 0) := by
  rw [isFirst_current h, hn, Bool.eq_iff_iff]; simp

theorem isLast_eq {g : Geo} {r : Int} {a : Nat}
    (hn : norm g.n r = some a) : isLast g r = decide (a = g.n - 1) := by
  unfold isLast; rw [Bool.eq_iff_iff]; simp [hn]

theorem qLeg_sound (g : Geo) : Sound g .legPoints (qLeg g) := .leaf fun _ => rfl
theorem qOrient_sound (g : Geo) : Sound g .orient (qOrient g) := .leaf fun _ => rfl

theorem qIncLegSize_sound (g : Geo) : Sound g .incLegSize (qIncLegSize g) where
  finals := wrap_finSub _ _ _ fun s r => by
    split
    · exact FinSub.refl _
    · exact andThen_finSub ((qLeg_sound g).finals _ _ _) fun _ _ =>
        andThen_finSub ((qLeg_sound g).finals _ _ _) fun _ _ => FinSub.refl _
  ok h := wrap_ok g _ _ fun s hs r a hn => by
    simp only [isFirst_eq h hn, ans, incAns, decide_eq_true_eq]
    split
    · exact T_pure hs _
    · next ha =>
      exact T_andThen ((qLeg_sound g).some h hs (norm_pred hn ha) false) fun s hs =>
        T_andThen ((qLeg_sound g).some h hs hn false) fun s hs => T_pure hs _

theorem qIncCart_sound (g : Geo) : Sound g .incCart (qIncCart g) where
  finals := wrap_finSub _ _ _ fun s r => by
    split
    · exact FinSub.refl _
    · exact andThen_finSub ((qLeg_sound g).finals _ _ _) fun _ _ =>
        andThen_finSub ((qLeg_sound g).finals _ _ _) fun _ _ =>
        andThen_finSub ((qOrient_sound g).finals _ _ _) fun _ _ => FinSub.refl _
  ok h := wrap_ok g _ _ fun s hs r a hn => by
    simp only [isFirst_eq h hn, ans, incAns, decide_eq_true_eq]
    split
    · exact T_pure hs _
    · next ha =>
      exact T_andThen ((qLeg_sound g).some h hs (norm_pred hn ha) false) fun s hs =>
        T_andThen ((qLeg_sound g).some h hs hn false) fun s hs =>
        T_andThen ((qOrient_sound g).some h hs hn false) fun s hs => T_pure hs _

theorem qIncRadius_sound (g : Geo) : Sound g .incRadius (qIncRadius g) :=
  (qIncCart_sound g).aliasCls fun _ => rfl
theorem qIncAzimuth_sound (g : Geo) : Sound g .incAzimuth (qIncAzimuth g) :=
  (qIncCart_sound g).aliasCls fun _ => rfl
theorem qIncPolar_sound (g : Geo) : Sound g .incPolar (qIncPolar g) :=
  (qIncCart_sound g).guard (qIncRadius_sound g) (fun _ => rfl) (fun _ => rfl) incAns_ok
theorem qIncAngle_sound (g : Geo) : Sound g .incAngle (qIncAngle g) :=
  (qIncPolar_sound g).alias fun _ => rfl
theorem qSignedInc_sound (g : Geo) : Sound g .signedInc (qSignedInc g) :=
  (qIncAzimuth_sound g).guard (qIncPolar_sound g) (fun _ => rfl) (fun _ => rfl) incAns_ok

theorem qConvInc_sound (g : Geo) : Sound g .convInc (qConvInc g) where
  finals := wrap_finSub _ _ _ fun s r => by
    split
    · exact FinSub.refl _
    · split
      · exact FinSub.refl _
      · exact (qIncPolar_sound g).finals _ _ _
  ok h := wrap_ok g _ _ fun s hs r a hn => by
    simp only [isFirst_eq h hn, ans, hn, Option.bind_some, decide_eq_true_eq]
    split
    · exact T_pure hs _
    · next ha =>
      cases g.incSide a with
      | none => exact T_pure hs _
      | some _ => exact incAns_pos ha ▸ (qIncPolar_sound g).some h hs hn false

theorem qOutCart_sound (g : Geo) : Sound g .outCart (qOutCart g) where
  finals := wrap_finSub _ _ _ fun s r => by
    split
    · exact FinSub.refl _
    · exact andThen_finSub ((qLeg_sound g).finals _ _ _) fun _ _ =>
        andThen_finSub ((qLeg_sound g).finals _ _ _) fun _ _ =>
        andThen_finSub ((qOrient_sound g).finals _ _ _) fun _ _ => FinSub.refl _
  ok h := wrap_ok g _ _ fun s hs r a hn => by
    simp only [isLast_eq hn, ans, outAns, decide_eq_true_eq]
    split
    · exact T_pure hs _
    · next ha =>
      exact T_andThen ((qLeg_sound g).some h hs hn false) fun s hs =>
        T_andThen ((qLeg_sound g).some h hs (norm_succ hn ha) false) fun s hs =>
        T_andThen ((qOrient_sound g).some h hs hn false) fun s hs => T_pure hs _

theorem qOutRadius_sound (g : Geo) : Sound g .outRadius (qOutRadius g) :=
  (qOutCart_sound g).aliasCls fun _ => rfl
theorem qOutAzimuth_sound (g : Geo) : Sound g .outAzimuth (qOutAzimuth g) :=
  (qOutCart_sound g).aliasCls fun _ => rfl
theorem qOutPolar_sound (g : Geo) : Sound g .outPolar (qOutPolar g) :=
  (qOutCart_sound g).guard (qOutRadius_sound g) (fun _ => rfl) (fun _ => rfl) (outAns_ok _)
theorem qOutAngle_sound (g : Geo) : Sound g .outAngle (qOutAngle g) :=
  (qOutPolar_sound g).alias fun _ => rfl
theorem qSignedOut_sound (g : Geo) : Sound g .signedOut (qSignedOut g) :=
  (qOutAzimuth_sound g).guard (qOutPolar_sound g) (fun _ => rfl) (fun _ => rfl) (outAns_ok _)

theorem qConvOut_sound (g : Geo) : Sound g .convOut (qConvOut g) where
  finals := wrap_finSub _ _ _ fun s r => by
    split
    · exact FinSub.refl _
    · split
      · exact FinSub.refl _
      · exact (qOutPolar_sound g).finals _ _ _
  ok h := wrap_ok g _ _ fun s hs r a hn => by
    simp only [isLast_eq hn, ans, hn, Option.bind_some, decide_eq_true_eq]
    split
    · exact T_pure hs _
    · next ha =>
      cases g.outSide a with
      | none => exact T_pure hs _
      | some _ => exact outAns_inner ha ▸ (qOutPolar_sound g).some h hs hn false

theorem query_sound (g : Geo) : (m : Meth) → Sound g m (fun s r fin => query g s m r fin)
  | .legPoints => qLeg_sound g
  | .orient => qOrient_sound g
  | .incLegSize => qIncLegSize_sound g
  | .incCart => qIncCart_sound g
  | .incRadius => qIncRadius_sound g
  | .incPolar => qIncPolar_sound g
  | .incAzimuth => qIncAzimuth_sound g
  | .incAngle => qIncAngle_sound g
  | .signedInc => qSignedInc_sound g
  | .convInc => qConvInc_sound g
  | .outCart => qOutCart_sound g
  | .outRadius => qOutRadius_sound g
  | .outPolar => qOutPolar_sound g
  | .outAzimuth => qOutAzimuth_sound g
  | .outAngle => qOutAngle_sound g
  | .signedOut => qSignedOut_sound g
  | .convOut => qConvOut_sound g

theorem query_ok {g : Geo} (h : g.rawZeroTest = false) {s : St} (hs : InvP g s) (m : Meth) (r : Int)
    (fin : Bool) : T g (query g s m r fin) (specN g m r) :=
  (query_sound g m).ok h s hs r fin

theorem query_is_wrap (g : Geo) (m : Meth) :
    ∃ body, ∀ s r fin, query g s m r fin = wrap g m body s r fin := by
  unfold query
  cases m <;> exact ⟨_, fun _ _ _ => rfl⟩

theorem wrap_of_norm_none {g : Geo} {r : Int} (hr : norm g.n r = none) (m : Meth)
    (body : St → Int → Res × St) (s : St) (fin : Bool) :
    wrap g m body s r fin = (.error .index, s) := by
  simp only [wrap, hr]

/-- a call that answers leaves its answer in the cache under the normalised key, and the key among the finals if the
call asked for that -/
theorem wrap_caches (g : Geo) (m : Meth) (body : St → Int → Res × St) (s : St) (r : Int)
    (fin : Bool) {a : Nat} {v : Cls} (hn : norm g.n r = some a)
    (hv : (wrap g m body s r fin).1 = .ok v) :
    lookup (wrap g m body s r fin).2.cache (m, a) = some v ∧
    (fin = true → (m, a) ∈ (wrap g m body s r fin).2.finals) := by
  revert hv
  -- the branches of `wrap` as in `wrap_ok`. Index out of range and a raising body give no `.ok`; a hit leaves the entry
  -- where it was found; a miss puts the body's answer at the head of the cache
  fun_cases wrap g m body s r fin
  · rintro ⟨⟩
  · next a' hn' k w hl =>
    obtain rfl := Option.some.inj (hn.symm.trans hn')
    rintro ⟨⟩
    exact ⟨by rw [promote_cache, hl], fun hf => by subst hf; exact mem_addFinal _ _⟩
  · rintro ⟨⟩
  · next a' hn' k _ w s' hx s'' =>
    obtain rfl := Option.some.inj (hn.symm.trans hn')
    rintro ⟨⟩
    exact ⟨by rw [promote_cache, lookup_cons, if_pos rfl], fun hf => by subst hf; exact mem_addFinal _ _⟩

/-! ## `spec` and `Inv` -/

theorem spec_eq_specN (g : Geo) (h : g.rawZeroTest = false) (m : Meth) (r : Int) :
    spec g m r = specN g m r :=
  (query_ok h (invP_init g) m r true).1

theorem spec_natCast (g : Geo) (h : g.rawZeroTest = false) (m : Meth) {a : Nat} (ha : a < g.n) :
    spec g m (a : Int) = ans g m a := by
  rw [spec_eq_specN g h, specN_some (norm_natCast ha)]

/-- the state invariant in the words of C14's statements: every cached entry is what a fresh object answers (`spec`) at
its index. The proofs work with `InvP` (the closed form in place of `spec`), the same thing for the current code
(`inv_iff_invP`) -/
def Inv (g : Geo) (s : St) : Prop :=
  ∀ m a v, lookup s.cache (m, a) = some v → a < g.n ∧ spec g m (a : Int) = .ok v

theorem inv_iff_invP (g : Geo) (h : g.rawZeroTest = false) (s : St) : Inv g s ↔ InvP g s :=
  forall_congr' fun m => forall_congr' fun _ => forall_congr' fun _ => imp_congr_right fun _ =>
    and_congr_right fun h1 => by rw [spec_natCast g h m h1]

/-- the state after a history: C14's statements speak of an object that has been through any list `ops` of queries,
clearings, `precompute` blocks and model functions, in any order -/
def run (g : Geo) (s : St) (ops : List Op) : St :=
  ops.foldl (fun s op => (step g s op).2) s

@[simp] theorem run_nil (g : Geo) (s : St) : run g s [] = s := rfl
@[simp] theorem run_cons (g : Geo) (s : St) (op : Op) (ops : List Op) :
    run g s (op :: ops) = run g (step g s op).2 ops := rfl
theorem run_append (g : Geo) (s : St) (ops ops' : List Op) :
    run g s (ops ++ ops') = run g (run g s ops) ops' := by
  simp [run, List.foldl_append]

theorem runQueries_nil (g : Geo) (s : St) : runQueries g s [] = ([], s) := rfl

theorem runQueries_cons (g : Geo) (s : St) (m : Meth) (r : Int) (f : Bool) (rest : List (Meth × Int × Bool)) :
    runQueries g s ((m, r, f) :: rest) =
      match (query g s m r f).1 with
      | .error e => ([.error e], (query g s m r f).2)
      | .ok v => (.ok v :: (runQueries g (query g s m r f).2 rest).1, (runQueries g (query g s m r f).2 rest).2) := by
  rw [runQueries]
  rcases query g s m r f with ⟨_ | v, s'⟩ <;> rfl

/-! ## simulation: the answers do not depend on the valid state -/

theorem lookup_clearIntermediate (s : St) (k : Key) :
    lookup (clearIntermediate s).cache k = if s.finals.contains k then lookup s.cache k else none :=
  lookup_filter_key (fun k => s.finals.contains k) s.cache k

theorem invP_clearIntermediate {g : Geo} {s : St} (hs : InvP g s) : InvP g (clearIntermediate s) := by
  intro m a v hl
  rw [lookup_clearIntermediate] at hl
  split at hl
  · exact hs m a v hl
  · cases hl

theorem runQueries_sim {g : Geo} (h : g.rawZeroTest = false) (qs : List (Meth × Int × Bool)) :
    ∀ {s t}, InvP g s → InvP g t →
      (runQueries g s qs).1 = (runQueries g t qs).1 ∧ InvP g (runQueries g s qs).2 := by
  induction qs with
  | nil => exact fun hs _ => ⟨rfl, hs⟩
  | cons q rest ih =>
    obtain ⟨m, r, f⟩ := q
    intro s t hs ht
    obtain ⟨s1, s2⟩ := query_ok h hs m r f
    obtain ⟨t1, t2⟩ := query_ok h ht m r f
    rw [runQueries_cons, runQueries_cons, s1, t1]
    cases specN g m r with
    | error e => exact ⟨rfl, s2⟩
    | ok v => exact ⟨congrArg (Except.ok v :: ·) (ih s2 t2).1, (ih s2 t2).2⟩

theorem step_precompute (g : Geo) (s : St) (ops : List (Meth × Int × Bool)) :
    (step g s (.precompute ops)).1 = (runQueries g s ops).1 ∧
    ((step g s (.precompute ops)).2 = (runQueries g s ops).2 ∨
     (step g s (.precompute ops)).2 = clearIntermediate (runQueries g s ops).2) := by
  simp only [step]; split <;> simp

/-- On two valid states of the current code every operation gives the same answers, and leaves a valid state: the
cached object behaves like a function of the request alone. -/
theorem step_sim {g : Geo} (h : g.rawZeroTest = false) {s t : St} (hs : InvP g s) (ht : InvP g t)
    (op : Op) : (step g s op).1 = (step g t op).1 ∧ InvP g (step g s op).2 := by
  cases op with
  | query m r f =>
    obtain ⟨s1, s2⟩ := query_ok h hs m r f
    exact ⟨congrArg (fun a => [a]) (s1.trans (query_ok h ht m r f).1.symm), s2⟩
  | clearIntermediate => exact ⟨rfl, invP_clearIntermediate hs⟩
  | clearAll => exact ⟨rfl, invP_init g⟩
  | precompute ops =>
    obtain ⟨h1, h2⟩ := runQueries_sim h ops hs ht
    rw [(step_precompute g s ops).1, (step_precompute g t ops).1]
    refine ⟨h1, ?_⟩
    rcases (step_precompute g s ops).2 with e | e <;> rw [e]
    · exact h2
    · exact invP_clearIntermediate h2
  | beamspread | revBeamspread | transRefl | revTransRefl => exact runQueries_sim h _ hs ht

theorem inv_init (g : Geo) : Inv g {} := fun _ _ _ hl => by simp at hl

theorem step_sim_inv {g : Geo} (h : g.rawZeroTest = false) {s t : St} (hs : Inv g s) (ht : Inv g t)
    (op : Op) : (step g s op).1 = (step g t op).1 ∧ Inv g (step g s op).2 :=
  (step_sim h ((inv_iff_invP g h s).1 hs) ((inv_iff_invP g h t).1 ht) op).imp_right (inv_iff_invP g h _).2

theorem inv_run {g : Geo} (h : g.rawZeroTest = false) (ops : List Op) {s : St} (hs : Inv g s) :
    Inv g (run g s ops) := by
  induction ops generalizing s with
  | nil => exact hs
  | cons op ops ih => exact ih (step_sim_inv h hs hs op).2

end Arim.RayCache
