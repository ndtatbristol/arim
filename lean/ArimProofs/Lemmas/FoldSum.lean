import Mathlib.Algebra.BigOperators.Group.Finset.Basic
/-! The accumulation loops of the model (`acc = acc + f k` over a list or a `range`) as `List.sum` and `Finset.sum`. -/
namespace Arim
open Finset

theorem foldl_add_eq {M : Type*} [AddMonoid M] (l : List M) (a : M) : l.foldl (· + ·) a = a + l.sum :=
  List.foldl_eq_apply_foldr

theorem sum_map_range {M : Type*} [AddCommMonoid M] (f : ℕ → M) (n : ℕ) :
    ((List.range n).map f).sum = ∑ k ∈ range n, f k := rfl

theorem foldl_range_add {M : Type*} [AddCommMonoid M] (f : ℕ → M) (n : ℕ) (z : M) :
    (List.range n).foldl (fun acc k => acc + f k) z = z + ∑ k ∈ range n, f k := by
  rw [← sum_map_range, ← foldl_add_eq, List.foldl_map]

end Arim
