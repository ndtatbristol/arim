import ArimModel.ScatMat
import Mathlib.Algebra.Order.Field.Basic
import Mathlib.Data.List.Pairwise
import Mathlib.Tactic.Ring
/-! For `ArimProofs.C10`: `interp` as a closed bilinear expression of the two `cell`s, and the segment chosen by the search
    loop of `freqInterp`. -/
namespace Arim.ScatMatLemmas
open Arim.ScatMat

theorem interp_eq_cells {K : Type} [Field K] (o : FOps K) (pi : K) (n : ℕ) (m : ℕ → ℕ → K) (inc out : K) :
    interp o pi n m inc out =
      (let ii := (cell o pi n inc).1
       let fi := (cell o pi n inc).2
       let io := (cell o pi n out).1
       let fo := (cell o pi n out).2
       let ii1 := if ii = n - 1 then 0 else ii + 1
       let io1 := if io = n - 1 then 0 else io + 1
       (1 - fi) * (1 - fo) * m io ii + fi * (1 - fo) * m io ii1
        + (1 - fi) * fo * m io1 ii + fi * fo * m io1 ii1) := by
  simp only [interp, ne_eq, ite_not]
  ring

section freq
variable {K : Type} [Field K] [LinearOrder K]

/-- the line through `(f0, v0)` and `(f1, v1)`, evaluated at `f`: what `freqInterp` returns on the segment it has chosen
(`go_cons`, `go_nil`); `f` comes last here and first in `freqInterp.go` -/
def chord (f0 f1 v0 v1 f : K) : K := v0 + (v1 - v0) * (f - f0) / (f1 - f0)

omit [LinearOrder K] in
theorem chord_left (f0 f1 v0 v1 : K) : chord f0 f1 v0 v1 f0 = v0 := by simp [chord]

omit [LinearOrder K] in
theorem chord_right (f0 f1 v0 v1 : K) (h : f0 ≠ f1) : chord f0 f1 v0 v1 f1 = v1 := by
  rw [chord, mul_div_cancel_right₀ _ (sub_ne_zero.2 h.symm), add_sub_cancel]

omit [Field K] in
theorem lt_succ_of_pairwise {l : List K} (hs : l.Pairwise (· < ·)) (k : ℕ) (hk : k + 1 < l.length) :
    l[k]'(Nat.lt_of_succ_lt hk) < l[k+1]'hk :=
  List.pairwise_iff_getElem.1 hs _ _ _ _ (Nat.lt_succ_self k)

theorem freqInterp_cons2 (f0 f1 : K) (fr : List K) (v0 v1 : K) (vr : List K) (f : K) :
    freqInterp (f0 :: f1 :: fr) (v0 :: v1 :: vr) f = some (freqInterp.go f f0 f1 v0 v1 fr vr) := rfl

theorem go_cons (f f0 f1 v0 v1 f2 v2 : K) (fr vr : List K) :
    freqInterp.go f f0 f1 v0 v1 (f2 :: fr) (v2 :: vr) =
      if f ≤ f1 then chord f0 f1 v0 v1 f else freqInterp.go f f1 f2 v1 v2 fr vr := by
  rw [freqInterp.go]; rfl

theorem go_nil (f f0 f1 v0 v1 : K) (vr : List K) :
    freqInterp.go f f0 f1 v0 v1 [] vr = chord f0 f1 v0 v1 f := by
  unfold freqInterp.go; rfl

theorem go_of_le (f f0 f1 v0 v1 : K) (fr vr : List K) (h : f ≤ f1) :
    freqInterp.go f f0 f1 v0 v1 fr vr = chord f0 f1 v0 v1 f := by
  unfold freqInterp.go
  split
  · exact if_pos h
  · rfl

/-- a segment whose right end `f1` is at or below `f` can be skipped. For `f = f1` the loop does stop at this segment, but
there its chord agrees with that of the next (both give `v1`) -/
theorem go_of_ge (f f0 f1 v0 v1 f2 v2 : K) (fr vr : List K) (h01 : f0 ≠ f1) (h12 : f1 < f2) (h : f1 ≤ f) :
    freqInterp.go f f0 f1 v0 v1 (f2 :: fr) (v2 :: vr) = freqInterp.go f f1 f2 v1 v2 fr vr := by
  rw [go_cons]
  split_ifs with hf
  · obtain rfl : f = f1 := le_antisymm hf h
    rw [go_of_le f f f2 v1 v2 fr vr h12.le, chord_left, chord_right _ _ _ _ h01]
  · rfl

/-- the first segment answers when it is the only one or `f` is at or below its right end (extrapolation to the left
included): the base case of `C10.freq_segment` -/
theorem freqInterp_head (freqs vals : List K) (hlen : freqs.length = vals.length) (h2 : 1 < freqs.length) (f : K)
    (h : 2 = freqs.length ∨ f ≤ freqs[1]) :
    freqInterp freqs vals f =
      some (chord (freqs[0]'(Nat.lt_of_succ_lt h2)) freqs[1] (vals[0]'(hlen ▸ Nat.lt_of_succ_lt h2)) (vals[1]'(hlen ▸ h2)) f) := by
  match freqs, vals, hlen, h2, h with
  | f0 :: f1 :: fr, v0 :: v1 :: vr, _, _, h =>
    refine congrArg some ?_
    rcases h with h | h
    · obtain rfl : fr = [] := List.length_eq_zero_iff.1 (Nat.succ_injective (Nat.succ_injective h)).symm
      exact go_nil ..
    · exact go_of_le f f0 f1 v0 v1 fr vr h

/-- the first knot can be dropped once `f` is at or past some later knot (`i`, `hi`, `h` serve only to give `ft[0] ≤ f`):
the induction step of `C10.freq_segment` -/
theorem freqInterp_cons (f0 : K) (ft : List K) (v0 : K) (vt : List K) (hlen : ft.length = vt.length)
    (hs : (f0 :: ft).Pairwise (· < ·)) (h2 : 1 < ft.length) (f : K) (i : ℕ) (hi : i < ft.length) (h : ft[i] ≤ f) :
    freqInterp (f0 :: ft) (v0 :: vt) f = freqInterp ft vt f := by
  match ft, vt, hlen, h2 with
  | f1 :: f2 :: fr, v1 :: v2 :: vr, _, _ =>
    have hs' := List.pairwise_cons.1 hs
    -- `f1 = ft[0] ≤ ft[i] ≤ f`, the knots being increasing
    have h1 : f1 ≤ f :=
      ((hs'.2.imp le_of_lt).rel_get_of_le (a := ⟨0, Nat.zero_lt_succ _⟩) (b := ⟨i, hi⟩) (Nat.zero_le i)).trans h
    exact congrArg some (go_of_ge f f0 f1 v0 v1 f2 v2 fr vr (hs'.1 f1 List.mem_cons_self).ne
      (lt_succ_of_pairwise hs'.2 0 (Nat.one_lt_succ_succ _)) h1)

end freq

end Arim.ScatMatLemmas
