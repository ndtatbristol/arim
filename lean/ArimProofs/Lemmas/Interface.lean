import ArimModel.Interface
import Mathlib.Analysis.SpecialFunctions.Trigonometric.Basic
import Mathlib.Data.Complex.Basic
import Mathlib.Tactic.FieldSimp
import Mathlib.Tactic.Ring
import Mathlib.Tactic.LinearCombination
/-! The complex instance of the interface model (`cTrig`, `mediaR`) with the coefficient triples
written out over `ℂ`, and the algebra of the energy-conservation theorems of C04 (the balance of
one incident wave, and the real parts it needs for the Krautkrämer coefficients written on real
sines, one real (incident) cosine and ARBITRARY complex cosines for the other two angles). -/
namespace Arim.C04
open Arim.Iface

section
variable {K : Type} [Add K] [Sub K] [Mul K] [Div K] [Neg K]

/-- the component of a transmission triple `(·, L, T)` selected by an outgoing mode -/
def pickTrans (r : K × K × K) : Mode → K | .L => r.2.1 | .T => r.2.2

/-- the component of a reflection triple `(L, T, ·)` selected by an outgoing mode -/
def pickRefl (r : K × K × K) : Mode → K | .L => r.1 | .T => r.2.1

/-- the coefficient triple of the solid→fluid problem for an incident mode, at the Snell angles
of the incidence angle `a` (which is the L angle resp. the T angle) -/
def solidFluidAt (t : CTrig K) (m : Media K) : Mode → K → K × K × K
  | .L, a => solidLFluid t m (snell t a m.cL m.cF) a (snell t a m.cL m.cT)
  | .T, a => solidTFluid t m (snell t a m.cT m.cF) (snell t a m.cT m.cL) a

/-- conversion to displacement units -/
def withUnits (disp : Bool) (v ratio : K) : K := if disp then v * ratio else v

end

noncomputable section
open Complex

/-- the complex instance of the trigonometric record; the arcsine is an external routine and
stays a parameter -/
def cTrig (asin : ℂ → ℂ) : CTrig ℂ :=
  { sin := Complex.sin, cos := Complex.cos, asin := asin, ofNat := fun n => (n : ℂ) }

/-- real material constants as the complex record on which the coefficient functions are evaluated: the energy
theorems are about real media, with complex angles beyond the critical ones -/
def mediaR (ρf ρs cf cl ct : ℝ) : Media ℂ :=
  { rhoF := ρf, rhoS := ρs, cF := cf, cL := cl, cT := ct }

variable (asin : ℂ → ℂ) (m : Media ℂ) (aF aL aT : ℂ)

/-! The nine coefficients are numerators over `N = nfs …`, built from the shear term
`c_T²/c_L² · sin 2α_L · sin 2α_T`, `cos² 2α_T` and the fluid term `ρ_f c_f/(ρ_s c_L) · cos α_L / cos α_F`. -/

theorem snell_cTrig (a cInc cRef : ℂ) :
    snell (cTrig asin) a cInc cRef = asin (cRef / cInc * sin a) := rfl

/-- for a real incidence angle the sine of the refracted angle is real, where the arcsine inverts
the sine -/
theorem sin_snell_ofReal (c0 c1 θ : ℝ)
    (h : sin (asin ((c1 : ℂ) / c0 * sin (θ : ℂ))) = (c1 : ℂ) / c0 * sin (θ : ℂ)) :
    sin (snell (cTrig asin) θ c0 c1) = ((c1 / c0 * Real.sin θ : ℝ) : ℂ) := by
  rw [snell_cTrig, h, ofReal_mul, ofReal_div, ofReal_sin]

theorem nfs_cTrig :
    nfs (cTrig asin) m aF aL aT =
      m.cT * m.cT / (m.cL * m.cL) * sin (2 * aL) * sin (2 * aT) + cos (2 * aT) * cos (2 * aT)
        + m.rhoF * m.cF / (m.rhoS * m.cL) * cos aL / cos aF := by
  simp only [nfs, cTrig, Nat.cast_ofNat]

theorem fluidSolid_cTrig :
    fluidSolid (cTrig asin) m aF aL aT =
      ((m.cT * m.cT / (m.cL * m.cL) * sin (2 * aL) * sin (2 * aT) + cos (2 * aT) * cos (2 * aT)
          - m.rhoF * m.cF / (m.rhoS * m.cL) * cos aL / cos aF) / nfs (cTrig asin) m aF aL aT,
       2 * cos (2 * aT) / nfs (cTrig asin) m aF aL aT,
       -2 * (m.cT * m.cT / (m.cL * m.cL)) * sin (2 * aL) / nfs (cTrig asin) m aF aL aT) := by
  simp only [fluidSolid, cTrig, Nat.cast_ofNat]
  rw [mul_div_mul_comm (m.rhoF * m.cF), ← mul_div_assoc (m.rhoF * m.cF / (m.rhoS * m.cL))]

theorem solidLFluid_cTrig :
    solidLFluid (cTrig asin) m aF aL aT =
      ((m.cT * m.cT / (m.cL * m.cL) * sin (2 * aL) * sin (2 * aT) - cos (2 * aT) * cos (2 * aT)
          + m.rhoF * m.cF / (m.rhoS * m.cL) * cos aL / cos aF) / nfs (cTrig asin) m aF aL aT,
       2 * (m.cT * m.cT / (m.cL * m.cL)) * sin (2 * aL) * cos (2 * aT)
          / nfs (cTrig asin) m aF aL aT,
       2 * (m.rhoF * m.cF / (m.rhoS * m.cL) * cos aL / cos aF) * cos (2 * aT)
          / nfs (cTrig asin) m aF aL aT) := by
  simp only [solidLFluid, cTrig, Nat.cast_ofNat]
  congr 2
  ring

theorem solidTFluid_cTrig :
    solidTFluid (cTrig asin) m aF aL aT =
      (-sin (4 * aT) / nfs (cTrig asin) m aF aL aT,
       (m.cT * m.cT / (m.cL * m.cL) * sin (2 * aL) * sin (2 * aT) - cos (2 * aT) * cos (2 * aT)
          - m.rhoF * m.cF / (m.rhoS * m.cL) * cos aL / cos aF) / nfs (cTrig asin) m aF aL aT,
       2 * (m.rhoF * m.cF / (m.rhoS * m.cL) * cos aL / cos aF) * sin (2 * aT)
          / nfs (cTrig asin) m aF aL aT) := by
  simp only [solidTFluid, cTrig, Nat.cast_ofNat]
  congr 2
  ring

theorem cos_two_mul_sin (a : ℂ) : cos (2 * a) = 1 - 2 * sin a ^ 2 := by
  rw [Complex.cos_two_mul, Complex.cos_sq']; ring

/-- the cosine of the double angle is real when the sine is -/
theorem cos_two_mul_of_sin {a : ℂ} {s : ℝ} (h : sin a = s) :
    cos (2 * a) = ((1 - 2 * s ^ 2 : ℝ) : ℂ) := by
  rw [cos_two_mul_sin, h]; push_cast; rfl

theorem sin_four_mul (a : ℂ) : sin (4 * a) = 2 * sin (2 * a) * cos (2 * a) := by
  rw [← Complex.sin_two_mul]; congr 1; ring

/-- Snell's law between the L and T angles in the solid, on the double angles and with the factor
`c_T²/c_L²` of the coefficients: the form in which it enters the Stokes relations -/
theorem snell_two_mul (hcl : m.cL ≠ 0) (hsnell : m.cL * sin aT = m.cT * sin aL) :
    m.cT * (cos aL * sin (2 * aT))
      = m.cL * (m.cT * m.cT / (m.cL * m.cL) * (cos aT * sin (2 * aL))) := by
  rw [Complex.sin_two_mul, Complex.sin_two_mul, ← mul_div_right_comm, ← mul_div_assoc,
    eq_div_iff (mul_ne_zero hcl hcl)]
  linear_combination (2 * cos aL * cos aT * m.cT * m.cL) * hsnell

end

end Arim.C04

namespace Arim.IfaceLemmas
open Complex

/-- Energy balance of one column of the interface's scattering matrix: a wave of flux weight `w`
is reflected with coefficient `(P − Q)/N`, `N = P + Q`, and sends `X/N`, `Y/N` into the two other
channels (flux weights `w₁`, `w₂`). Since `|P + Q|² − |P − Q|² = 4 Re (P · conj Q)`, incident flux
= reflected + outgoing flux is an identity between the numerators, with no `N` in it. -/
theorem flux_balance {w w₁ w₂ : ℝ} {P Q X Y N : ℂ} (hN : N ≠ 0) (hPQ : N = P + Q)
    (h : 4 * w * (P * (starRingEnd ℂ) Q).re = w₁ * normSq X + w₂ * normSq Y) :
    w * (1 - normSq ((P - Q) / N)) = w₁ * normSq (X / N) + w₂ * normSq (Y / N) := by
  have hN' : normSq N ≠ 0 := mt normSq_eq_zero.1 hN
  have key : normSq N - normSq (P - Q) = 4 * (P * (starRingEnd ℂ) Q).re := by
    rw [hPQ, normSq_add, normSq_sub]; ring
  rw [normSq_div, normSq_div, normSq_div]
  field_simp
  linear_combination h + w * key

theorem ofReal_div_re (z : ℝ) (w : ℂ) : ((z : ℂ) / w).re = z * w.re / normSq w := by
  rw [div_re, ofReal_re, ofReal_im]; ring

/-! `Re (P · conj Q)` for the three splittings of `N` = shear term `κ·(2 s C_L)·(2 t C_T)` + `b` +
fluid term `z·C_L/C_F` (`κ s t b z` real), computed in `ℂ` from `C_L · conj C_L = |C_L|²`:
`Q` is the fluid term and `C_F` real for incidence from the fluid (`re_fs`), `Q = b` and `C_L = c`
real for an incident L wave (`re_slf`), `P` the shear term and `C_T = c` real for an incident T wave
(`re_stf`). -/

theorem re_fs (κ s t b z Cf : ℝ) (Cl Ct : ℂ) :
    ((κ * (2 * s * Cl) * (2 * t * Ct) + b) * (starRingEnd ℂ) (z * Cl / Cf)).re
      = z / Cf * (4 * κ * s * t * normSq Cl * Ct.re + b * Cl.re) := by
  have : (κ * (2 * s * Cl) * (2 * t * Ct) + b) * (starRingEnd ℂ) (z * Cl / Cf)
      = ((z / Cf * (4 * κ * s * t * normSq Cl) : ℝ) : ℂ) * Ct
        + ((z / Cf * b : ℝ) : ℂ) * (starRingEnd ℂ) Cl := by
    rw [map_div₀, map_mul, conj_ofReal, conj_ofReal]
    push_cast
    linear_combination (4 * κ * s * t * Ct * z / Cf : ℂ) * mul_conj Cl
  rw [this, add_re, re_ofReal_mul, re_ofReal_mul, conj_re]
  ring

theorem re_slf (κ s c t zc b : ℝ) (Ct Cf : ℂ) :
    ((κ * (2 * s * c) * (2 * t * Ct) + zc / Cf) * (starRingEnd ℂ) b).re
      = b * (4 * κ * s * c * t * Ct.re + zc * Cf.re / normSq Cf) := by
  have : (κ * (2 * s * c) * (2 * t * Ct) + zc / Cf) * (starRingEnd ℂ) (b : ℂ)
      = ((b * (4 * κ * s * c * t) : ℝ) : ℂ) * Ct + ((b * zc : ℝ) : ℂ) / Cf := by
    rw [conj_ofReal]; push_cast; ring
  rw [this, add_re, re_ofReal_mul, ofReal_div_re]
  ring

theorem re_stf (κ s t c b z : ℝ) (Cl Cf : ℂ) :
    ((κ * (2 * s * Cl) * (2 * t * c)) * (starRingEnd ℂ) (b + z * Cl / Cf)).re
      = 4 * κ * s * t * c * (b * Cl.re + z * normSq Cl * Cf.re / normSq Cf) := by
  have : (κ * (2 * s * Cl) * (2 * t * c)) * (starRingEnd ℂ) (b + z * Cl / Cf)
      = ((4 * κ * s * t * c * b : ℝ) : ℂ) * Cl
        + ((4 * κ * s * t * c * z * normSq Cl : ℝ) : ℂ) / (starRingEnd ℂ) Cf := by
    rw [map_add, map_div₀, map_mul, conj_ofReal, conj_ofReal]
    push_cast
    linear_combination (4 * κ * s * t * c * z / (starRingEnd ℂ) Cf : ℂ) * mul_conj Cl
  rw [this, add_re, re_ofReal_mul, ofReal_div_re, conj_re, normSq_conj]
  ring

/-! The numerator identities of the three incident waves, on the impedances `Z = ρ c` (weights
`1/Z`, `c_T²/c_L² = Z_T²/Z_L²`, fluid term `Z_F/Z_L · C_L/C_F`, Snell's law `Z_L t = Z_T s` between
the real sines `s`, `t` of the L and T angles); `c2` stands for `cos 2α_T`, a free real.

Division by zero is zero in Lean's fields, so each lemma lists only the hypotheses its algebra needs. `Zf ≠ 0` is
needed in `flux_fs` alone, where `Zf` cancels between the incident weight `Cf / Zf` and the fluid term; in the other two
`Zf = 0` makes the fluid terms vanish on both sides. No lemma needs `Zt ≠ 0` either: for `Zt = 0` the terms concerned
vanish on both sides (in `flux_stf` because Snell's law then gives `t = 0`). -/

theorem kappa_impedance {ρ : ℝ} (hρ : ρ ≠ 0) (cl ct : ℝ) :
    ct * ct / (cl * cl) = (ρ * ct) * (ρ * ct) / ((ρ * cl) * (ρ * cl)) := by
  rw [mul_mul_mul_comm ρ ct, mul_mul_mul_comm ρ cl, mul_div_mul_left _ _ (mul_self_ne_zero.2 hρ)]

theorem snell_impedance {ρ cl ct s t : ℝ} (h : cl * t = ct * s) : ρ * cl * t = ρ * ct * s := by
  rw [mul_assoc, h, mul_assoc]

theorem flux_fs (Cf s t c2 Zf Zl Zt : ℝ) (Cl Ct : ℂ) (hCf : Cf ≠ 0) (hZf : Zf ≠ 0) (hZl : Zl ≠ 0)
    (hsnell : Zl * t = Zt * s) :
    4 * (Cf / Zf) * ((((Zt * Zt / (Zl * Zl) : ℝ) : ℂ) * (2 * s * Cl) * (2 * t * Ct)
          + ((c2 * c2 : ℝ) : ℂ)) * (starRingEnd ℂ) (((Zf / Zl : ℝ) : ℂ) * Cl / Cf)).re
      = Cl.re / Zl * normSq (2 * (c2 : ℂ))
        + Ct.re / Zt * normSq (-2 * ((Zt * Zt / (Zl * Zl) : ℝ) : ℂ) * (2 * s * Cl)) := by
  rw [re_fs]
  simp only [normSq_mul, normSq_neg, normSq_ofReal, normSq_ofNat]
  -- the `c2²` terms agree literally; the shear terms agree by one use of `Zl t = Zt s`
  field_simp
  linear_combination (16 * Zt ^ 2 * s * normSq Cl * Ct.re) * hsnell

theorem flux_slf (c s t c2 Zf Zl Zt : ℝ) (Cf Ct : ℂ) (hCf : Cf ≠ 0) (hZl : Zl ≠ 0)
    (hsnell : Zl * t = Zt * s) :
    4 * (c / Zl) * ((((Zt * Zt / (Zl * Zl) : ℝ) : ℂ) * (2 * s * c) * (2 * t * Ct)
          + ((Zf / Zl * c : ℝ) : ℂ) / Cf) * (starRingEnd ℂ) ((c2 * c2 : ℝ) : ℂ)).re
      = Ct.re / Zt * normSq (2 * ((Zt * Zt / (Zl * Zl) : ℝ) : ℂ) * (2 * s * c) * c2)
        + Cf.re / Zf * normSq (2 * (((Zf / Zl * c : ℝ) : ℂ) / Cf) * c2) := by
  have hCf' : normSq Cf ≠ 0 := mt normSq_eq_zero.1 hCf
  rw [re_slf]
  simp only [normSq_mul, normSq_div, normSq_ofReal, normSq_ofNat]
  -- the fluid terms agree literally; the shear terms agree by one use of `Zl t = Zt s`
  field_simp
  linear_combination (16 * c ^ 2 * c2 ^ 2 * Zt ^ 2 * s * Ct.re * normSq Cf) * hsnell

theorem flux_stf (c s t c2 Zf Zl Zt : ℝ) (Cf Cl : ℂ) (hCf : Cf ≠ 0) (hZl : Zl ≠ 0)
    (hsnell : Zl * t = Zt * s) :
    4 * (c / Zt) * ((((Zt * Zt / (Zl * Zl) : ℝ) : ℂ) * (2 * s * Cl) * (2 * t * c))
        * (starRingEnd ℂ) (((c2 * c2 : ℝ) : ℂ) + ((Zf / Zl : ℝ) : ℂ) * Cl / Cf)).re
      = Cl.re / Zl * normSq (-(2 * (2 * t * c) * c2))
        + Cf.re / Zf * normSq (2 * (((Zf / Zl : ℝ) : ℂ) * Cl / Cf) * (2 * t * c)) := by
  have hCf' : normSq Cf ≠ 0 := mt normSq_eq_zero.1 hCf
  rw [re_stf]
  simp only [normSq_mul, normSq_div, normSq_neg, normSq_ofReal, normSq_ofNat]
  -- here the shear term multiplies both terms, and each needs `Zl t = Zt s` once: the incident weight `1 / Zt` times
  -- `Zt² / Zl² · s` on the left is `t / Zl` on the right
  field_simp
  linear_combination (-(16 * c ^ 2 * t * (Zl * c2 ^ 2 * Cl.re * normSq Cf
    + Zf * normSq Cl * Cf.re))) * hsnell

end Arim.IfaceLemmas
