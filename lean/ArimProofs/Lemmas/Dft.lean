import Mathlib.Analysis.SpecialFunctions.Trigonometric.Basic
import Mathlib.Analysis.SpecialFunctions.Complex.Log
import Mathlib.Algebra.BigOperators.Group.Finset.Basic
import Mathlib.Algebra.Ring.GeomSum
import Mathlib.Tactic.Ring
/-! The discrete Fourier transform of sequences `ℕ → ℂ`, with the sample index extended periodically to `ℤ`: circular
    indices, powers of the principal root of unity (exponents in `ℤ`), the transforms and their inversion.
    The model's list-based `TD.idft` (ArimModel/TimeDomain.lean) is this `idft` by `toC_idft` (Lemmas/TimeDomain.lean).
    The namespace is `Arim.C10` because statements of C10's property theorems mention `C10.idft`, `C10.dft`. -/
namespace Arim.C10
noncomputable section
open Complex Finset
open scoped Real ComplexConjugate

/-- `numpy.fft.ifft`, read at an integer (periodically extended) sample index -/
def idft (X : ℕ → ℂ) (n : ℕ) (j : ℤ) : ℂ :=
  (n : ℂ)⁻¹ * ∑ k ∈ range n, X k * exp (2 * π * I * (j * k / n))

/-- `numpy.fft.ifft2` -/
def idft2 (X : ℕ → ℕ → ℂ) (n : ℕ) (a b : ℤ) : ℂ :=
  idft (fun k₁ => idft (fun k₂ => X k₁ k₂) n b) n a

/-- `numpy.fft.fft` -/
def dft (x : ℕ → ℂ) (n : ℕ) (k : ℕ) : ℂ :=
  ∑ l ∈ range n, x l * exp (-(2 * π * I * (l * k / n)))

/-- `numpy.fft.fft2` -/
def dft2 (M : ℕ → ℕ → ℂ) (n : ℕ) (k₁ k₂ : ℕ) : ℂ :=
  dft (fun a => dft (fun b => M a b) n k₂) n k₁

theorem emod_toNat (n : ℕ) (hn : n ≠ 0) (a : ℤ) : (a % n).toNat < n ∧ ((a % n).toNat : ℤ) = a % n := by
  have h := Int.emod_lt_of_pos a (Int.natCast_pos.2 (Nat.pos_of_ne_zero hn))
  have h0 := Int.emod_nonneg a (Int.natCast_ne_zero.2 hn)
  omega

theorem cast_toNat_emod {R : Type} [Ring R] (n : ℕ) (hn : n ≠ 0) (z : ℤ) :
    (((z % n).toNat : ℕ) : R) = z - n * ((z / n : ℤ) : R) := by
  rw [← Int.cast_natCast (R := R) (Int.toNat _), (emod_toNat n hn z).2, Int.emod_def, Int.cast_sub, Int.cast_mul,
    Int.cast_natCast]

/-- the `a`-th power of the principal `n`-th root of unity -/
def rootPow (n : ℕ) (a : ℤ) : ℂ := exp (2 * π * I * (a / n))

theorem rootPow_add (n : ℕ) (a b : ℤ) : rootPow n (a + b) = rootPow n a * rootPow n b := by
  rw [rootPow, rootPow, rootPow, ← exp_add, Int.cast_add, add_div, mul_add]

theorem rootPow_mul_left {n : ℕ} (hn : n ≠ 0) (q : ℤ) : rootPow n (n * q) = 1 := by
  have hn' : (n : ℂ) ≠ 0 := Nat.cast_ne_zero.2 hn
  rw [rootPow, Int.cast_mul, Int.cast_natCast, mul_div_cancel_left₀ _ hn', mul_comm, exp_int_mul_two_pi_mul_I]

theorem rootPow_add_mul {n : ℕ} (hn : n ≠ 0) (a q : ℤ) : rootPow n (a + n * q) = rootPow n a := by
  rw [rootPow_add, rootPow_mul_left hn, mul_one]

theorem rootPow_congr {n : ℕ} (hn : n ≠ 0) {a b : ℤ} (h : (n : ℤ) ∣ a - b) : rootPow n a = rootPow n b := by
  obtain ⟨q, hq⟩ := h
  rw [← rootPow_add_mul hn b q, ← hq, add_sub_cancel]

theorem rootPow_emod {n : ℕ} (hn : n ≠ 0) (a : ℤ) : rootPow n (a % n) = rootPow n a :=
  rootPow_congr hn ⟨-(a / n), by rw [Int.emod_def]; ring⟩

theorem rootPow_zero (n : ℕ) : rootPow n 0 = 1 := by simp [rootPow]

theorem rootPow_conj (n : ℕ) (a : ℤ) : conj (rootPow n a) = rootPow n (-a) := by
  rw [rootPow, rootPow, ← exp_conj]
  congr 1
  simp only [map_mul, map_div₀, conj_I, conj_ofReal, map_natCast, map_ofNat, map_intCast, Int.cast_neg]
  ring

theorem rootPow_mul_nat (n : ℕ) (a : ℤ) (k : ℕ) : rootPow n (a * k) = rootPow n a ^ k := by
  rw [rootPow, rootPow, ← exp_nat_mul]
  congr 1
  push_cast
  ring

theorem rootPow_eq_one_iff {n : ℕ} (hn : n ≠ 0) (a : ℤ) : rootPow n a = 1 ↔ (n : ℤ) ∣ a := by
  have hn' : (n : ℂ) ≠ 0 := Nat.cast_ne_zero.2 hn
  constructor
  · intro h
    rw [rootPow, exp_eq_one_iff] at h
    obtain ⟨q, hq⟩ := h
    have : (a : ℂ) / n = q := mul_right_cancel₀ two_pi_I_ne_zero ((mul_comm _ _).trans hq)
    exact ⟨q, by exact_mod_cast ((div_eq_iff hn').1 this).trans (mul_comm _ _)⟩
  · rintro ⟨q, rfl⟩
    exact rootPow_mul_left hn q

theorem sum_rootPow {n : ℕ} (hn : n ≠ 0) (d : ℤ) (hd : ¬ (n : ℤ) ∣ d) :
    ∑ k ∈ range n, rootPow n (d * k) = 0 := by
  simp_rw [rootPow_mul_nat]
  have h := geom_sum_mul (rootPow n d) n
  rw [← rootPow_mul_nat, mul_comm d, rootPow_mul_left hn, sub_self] at h
  exact (mul_eq_zero.1 h).resolve_right (sub_ne_zero.2 (mt (rootPow_eq_one_iff hn d).1 hd))

theorem idft_eq (X : ℕ → ℂ) (n : ℕ) (j : ℤ) :
    idft X n j = (n : ℂ)⁻¹ * ∑ k ∈ range n, X k * rootPow n (j * k) := by
  simp only [idft, rootPow, Int.cast_mul, Int.cast_natCast]

/-- the phase factor that delays by `m` samples -/
theorem exp_neg_eq_rootPow (n : ℕ) (m : ℤ) (k : ℕ) :
    exp (-(2 * π * I * (m * k / n))) = rootPow n (-m * k) := by
  simp only [rootPow, Int.cast_neg, Int.cast_mul, Int.cast_natCast, neg_mul, neg_div, mul_neg]

theorem idft_congr {X Y : ℕ → ℂ} {n : ℕ} (h : ∀ k, k < n → X k = Y k) (j : ℤ) :
    idft X n j = idft Y n j := by
  unfold idft
  rw [sum_congr rfl fun k hk => by rw [h k (mem_range.1 hk)]]

theorem idft_add_mul (X : ℕ → ℂ) (n : ℕ) (hn : n ≠ 0) (j q : ℤ) :
    idft X n (j + n * q) = idft X n j := by
  rw [idft_eq, idft_eq]
  congr 1
  refine sum_congr rfl fun k _ => ?_
  rw [add_mul, mul_assoc, rootPow_add_mul hn]

theorem idft_emod (X : ℕ → ℂ) (n : ℕ) (hn : n ≠ 0) (j : ℤ) :
    idft X n (j % n) = idft X n j := by
  conv_rhs => rw [← Int.emod_add_mul_ediv j n]
  rw [idft_add_mul X n hn]

theorem idft_const_mul (c : ℂ) (X : ℕ → ℂ) (n : ℕ) (j : ℤ) :
    idft (fun k => c * X k) n j = c * idft X n j := by
  unfold idft
  simp only [mul_sum]
  exact sum_congr rfl fun k _ => by ring

theorem idft_mul_const (c : ℂ) (X : ℕ → ℂ) (n : ℕ) (j : ℤ) :
    idft (fun k => X k * c) n j = idft X n j * c := by
  simp only [mul_comm _ c, idft_const_mul]

theorem idft_sum {ι : Type} (s : Finset ι) (Y : ι → ℕ → ℂ) (n : ℕ) (j : ℤ) :
    idft (fun k => ∑ a ∈ s, Y a k) n j = ∑ a ∈ s, idft (Y a) n j := by
  unfold idft
  simp_rw [sum_mul]
  rw [sum_comm, mul_sum]

theorem idft2_emod (X : ℕ → ℕ → ℂ) (n : ℕ) (hn : n ≠ 0) (a b : ℤ) :
    idft2 X n (a % n) (b % n) = idft2 X n a b := by
  unfold idft2
  simp only [idft_emod _ n hn]

theorem dft_eq (x : ℕ → ℂ) (n k : ℕ) : dft x n k = ∑ l ∈ range n, x l * rootPow n (-(l * k)) := by
  simp only [dft, rootPow, Int.cast_neg, Int.cast_mul, Int.cast_natCast, neg_div, mul_neg]

/-- `ifft (fft x) = x`, by orthogonality of the `n`-th roots of unity -/
theorem idft_comp_dft (x : ℕ → ℂ) (n : ℕ) (j : ℕ) (hj : j < n) : idft (dft x n) n j = x j := by
  have hn : n ≠ 0 := by omega
  have hn' : (n : ℂ) ≠ 0 := Nat.cast_ne_zero.2 hn
  simp only [idft_eq, dft_eq, sum_mul, mul_assoc, ← rootPow_add]
  rw [sum_comm]
  -- the inner sum over `k` is `n` for `l = j` and vanishes otherwise
  have : ∀ l ∈ range n, ∑ k ∈ range n, x l * rootPow n (-((l : ℤ) * k) + (j : ℤ) * k)
      = if l = j then x j * n else 0 := by
    intro l hl
    have hl' : l < n := mem_range.1 hl
    simp only [← mul_sum, ← sub_eq_neg_add, ← sub_mul]
    split_ifs with h
    · subst h
      simp [rootPow_zero]
    · rw [sum_rootPow hn, mul_zero]
      intro hdvd
      have := Int.eq_zero_of_abs_lt_dvd hdvd (by rw [abs_lt]; omega)
      omega
  rw [sum_congr rfl this, sum_ite_eq' (range n) j, if_pos (mem_range.2 hj), mul_comm (x j), inv_mul_cancel_left₀ hn']

/-- `ifft2 (fft2 M) = M` -/
theorem idft2_dft2 (M : ℕ → ℕ → ℂ) (n : ℕ) (a b : ℕ) (ha : a < n) (hb : b < n) :
    idft2 (dft2 M n) n a b = M a b := by
  have : ∀ k₁ : ℕ, idft (fun k₂ => dft2 M n k₁ k₂) n b = dft (fun a => M a b) n k₁ := by
    intro k₁
    unfold dft2
    conv_lhs => unfold dft
    rw [idft_sum]
    conv_rhs => unfold dft
    refine sum_congr rfl fun l _ => ?_
    rw [idft_mul_const]
    exact congrArg (· * _) (idft_comp_dft (fun b => M l b) n b hb)
  unfold idft2
  simp_rw [this]
  exact idft_comp_dft _ n a ha

theorem dft_real_conj (x : ℕ → ℝ) (n k : ℕ) (hk : k ≤ n) :
    conj (dft (fun l => (x l : ℂ)) n k) = dft (fun l => (x l : ℂ)) n (n - k) := by
  rw [dft_eq, dft_eq, map_sum]
  refine sum_congr rfl fun l hl => ?_
  have hn : n ≠ 0 := by have := mem_range.1 hl; omega
  rw [map_mul, conj_ofReal, rootPow_conj, neg_neg]
  congr 1
  refine rootPow_congr hn ⟨l, ?_⟩
  rw [Nat.cast_sub hk]
  ring

/-- the terms other than `Z 0 = 0` pair off `k ↔ n − k` with `conj (Z k) = −Z (n − k)`, hence `conj S = −S` for their sum
`S`, which so has no real part -/
theorem sum_re_eq_zero_of_conj_reflect (Z : ℕ → ℂ) (n : ℕ) (h0 : Z 0 = 0)
    (h : ∀ k, 0 < k → k < n → conj (Z k) = -Z (n - k)) : (∑ k ∈ range n, Z k).re = 0 := by
  have hc : conj (∑ k ∈ range n, Z k) = -∑ k ∈ range n, Z k := by
    rcases n with _ | m
    · simp
    -- drop the term `k = 0`, sum the conjugates in the opposite order (`k ↦ n − k`) and compare termwise
    rw [sum_range_succ', h0, add_zero, map_sum, ← sum_range_reflect (fun i => Z (i + 1)) m, ← sum_neg_distrib]
    refine sum_congr rfl fun k hk => ?_
    have hk' := mem_range.1 hk
    rw [h (k + 1) (by omega) (by omega)]
    congr 2
    omega
  have := congrArg Complex.re hc
  rwa [conj_re, neg_re, self_eq_neg] at this

/-- index of bin `k` in `numpy.fft.fftfreq(n, d)·(n d)`: bins in the upper half are aliased
to negative frequencies -/
def fftfreqIdx (n k : ℕ) : ℤ := if 2 * k < n then k else (k : ℤ) - n

theorem fftfreqIdx_sub_dvd (n k : ℕ) : (n : ℤ) ∣ fftfreqIdx n k - k := by
  unfold fftfreqIdx
  split_ifs
  · simp
  · exact ⟨-1, by ring⟩

/-- a phase does not see the aliasing -/
theorem rootPow_mul_fftfreqIdx {n : ℕ} (hn : n ≠ 0) (a : ℤ) (k : ℕ) :
    rootPow n (a * fftfreqIdx n k) = rootPow n (a * k) :=
  rootPow_congr hn (by rw [← mul_sub]; exact (fftfreqIdx_sub_dvd n k).mul_left a)

end
end Arim.C10
