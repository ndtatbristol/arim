import ArimModel.Das
/-! The interpolators and the per-timetrace term of the delay-and-sum model (`ArimModel/Das.lean`) for arbitrary
    numerical primitives `Ops` and sample operations `Data`: defining equations, when a lookup is in the window,
    compatibility with maps of the samples. Core only. -/

namespace Arim.Das

section Kernels
variable {α β : Type}

theorem interpNearest_eq (ops : Ops α) (n : Nat) (g : Nat → β) (loc : α) :
    interpNearest ops n g loc =
      if ops.round loc < 0 ∨ ops.round loc ≥ (n : Int) then none else some (g (ops.round loc).toNat) := rfl

theorem interpNearest_eq_some_iff (ops : Ops α) (n : Nat) (g : Nat → β) (loc : α) (v : β) :
    interpNearest ops n g loc = some v ↔ ∃ i : Nat, i < n ∧ ops.round loc = (i : Int) ∧ v = g i := by
  rw [interpNearest_eq]
  split
  · exact ⟨nofun, fun ⟨i, _, _, _⟩ => by omega⟩
  · exact ⟨fun hv => ⟨_, by omega, by omega, (Option.some.inj hv).symm⟩,
      fun ⟨i, _, hr, hv⟩ => by rw [hv, hr, Int.toNat_natCast]⟩

theorem interpNearest_eq_none_iff (ops : Ops α) (n : Nat) (g : Nat → β) (loc : α) :
    interpNearest ops n g loc = none ↔ ops.round loc < 0 ∨ (n : Int) ≤ ops.round loc := by
  rw [interpNearest_eq]
  split <;> simp_all

theorem interpNearest_map {γ : Type} (φ : β → γ) (ops : Ops α) (n : Nat) (g : Nat → β) (loc : α) :
    interpNearest ops n (fun i => φ (g i)) loc = (interpNearest ops n g loc).map φ := by
  simp only [interpNearest_eq]
  split <;> rfl

variable [Sub α]

theorem interpLinearA_eq (ops : Ops α) (d : Data α β) (n : Nat) (g : Nat → β) (loc : α) :
    interpLinearA ops d n g loc =
      if ops.floor loc < 0 ∨ ops.floor loc + 1 ≥ (n : Int) then none
      else some (d.add (g (ops.floor loc).toNat) (d.smul (loc - ops.ofInt (ops.floor loc))
        (d.sub (g (ops.floor loc + 1).toNat) (g (ops.floor loc).toNat)))) := rfl

theorem interpLinearB_eq (ops : Ops α) (d : Data α β) (n : Nat) (g : Nat → β) (loc : α) :
    interpLinearB ops d n g loc =
      if ops.floor loc < 0 ∨ ops.floor loc + 1 ≥ (n : Int) then none
      else some (d.add (d.smul (ops.ofInt 1 - (loc - ops.ofInt (ops.floor loc))) (g (ops.floor loc).toNat))
        (d.smul (loc - ops.ofInt (ops.floor loc)) (g (ops.floor loc + 1).toNat))) := rfl

theorem interpLanczos_eq_none_iff [Mul α] [Div α] [LT α] [DecidableLT α] (ops : Ops α) (d : Data α β)
    (a n : Nat) (g : Nat → β) (loc : α) :
    interpLanczos ops d a n g loc = none ↔ loc < ops.ofInt 0 ∨ ¬ loc < ops.ofInt n := by
  unfold interpLanczos
  split <;> simp_all

theorem interpLinearA_eq_none_iff (ops : Ops α) (d : Data α β) (n : Nat) (g : Nat → β) (loc : α) :
    interpLinearA ops d n g loc = none ↔ ops.floor loc < 0 ∨ (n : Int) ≤ ops.floor loc + 1 := by
  rw [interpLinearA_eq]
  split <;> simp_all

theorem interpLinearA_of_floor (ops : Ops α) (d : Data α β) (n : Nat) (g : Nat → β) (loc : α) (i : Nat)
    (h : ops.floor loc = (i : Int)) :
    interpLinearA ops d n g loc =
      if i + 1 < n then some (d.add (g i) (d.smul (loc - ops.ofInt i) (d.sub (g (i + 1)) (g i)))) else none := by
  rw [interpLinearA_eq]
  simp only [h, Int.toNat_natCast, show ((i : Int) + 1).toNat = i + 1 by omega]
  by_cases hn : i + 1 < n
  · rw [if_neg (by omega), if_pos hn]
  · rw [if_pos (by omega), if_neg hn]

theorem interpLinearA_eq_some_iff (ops : Ops α) (d : Data α β) (n : Nat) (g : Nat → β) (loc : α) (v : β) :
    interpLinearA ops d n g loc = some v ↔ ∃ i : Nat, ops.floor loc = (i : Int) ∧ i + 1 < n ∧
      v = d.add (g i) (d.smul (loc - ops.ofInt i) (d.sub (g (i + 1)) (g i))) := by
  constructor
  · intro hv
    have h0 : 0 ≤ ops.floor loc := Int.not_lt.1 fun h => by
      rw [(interpLinearA_eq_none_iff ops d n g loc).2 (.inl h)] at hv; cases hv
    have hi : ops.floor loc = ((ops.floor loc).toNat : Int) := by omega
    rw [interpLinearA_of_floor ops d n g loc _ hi] at hv
    split at hv
    · exact ⟨_, hi, ‹_›, (Option.some.inj hv).symm⟩
    · cases hv
  · rintro ⟨i, hi, hn, rfl⟩
    rw [interpLinearA_of_floor ops d n g loc i hi, if_pos hn]

/-- a map of samples that commutes with the sample operations the interpolators of the uniform-amplitude
kernels use (no `sub`, `mul`, `divNat`); scaling by a timetrace weight is one -/
structure Data.IsHom (d : Data α β) (φ : β → β) : Prop where
  zero : φ d.zero = d.zero
  add : ∀ x y, φ (d.add x y) = d.add (φ x) (φ y)
  smul : ∀ c x, φ (d.smul c x) = d.smul c (φ x)

variable {d : Data α β} {φ : β → β}

theorem interpLinearB_map (h : d.IsHom φ) (ops : Ops α) (n : Nat) (g : Nat → β) (loc : α) :
    interpLinearB ops d n (fun i => φ (g i)) loc = (interpLinearB ops d n g loc).map φ := by
  simp only [interpLinearB_eq]
  split
  · rfl
  · simp only [Option.map_some, h.add, h.smul]

variable [Add α] [Mul α] [Div α] [LT α] [DecidableLT α]

omit [Add α] in
theorem interpLanczos_map (h : d.IsHom φ) (ops : Ops α) (a n : Nat) (g : Nat → β) (loc : α) :
    interpLanczos ops d a n (fun i => φ (g i)) loc = (interpLanczos ops d a n g loc).map φ := by
  unfold interpLanczos
  split
  · rfl
  · refine congrArg some ?_
    conv => lhs; rw [← h.zero]
    exact List.foldl_hom φ fun acc k => by rw [h.add, h.smul]

end Kernels

end Arim.Das

namespace Arim.Tfm
open Arim.Das
variable {α β : Type} [Add α] [Sub α] [Mul α] [Div α] [LT α] [DecidableLT α]

/-- interpolation of one timetrace `g` at fractional index `loc` -/
def interpOf (ops : Ops α) (d : Data α β) (it : Interp) (n : Nat) (g : Nat → β) (loc : α) : Option β :=
  match it with
  | .nearest => interpNearest ops n g loc
  | .linear => interpLinearB ops d n g loc
  | .lanczos a => interpLanczos ops d a n g loc

theorem termNoAmp_eq_interpOf (ops : Ops α) (d : Data α β) (p : Problem α β) (it : Interp) (pt k : Nat) :
    termNoAmp ops d p it pt k = interpOf ops d it p.n (p.g k) (locB ops p pt k) := by
  cases it <;> rfl

omit [Add α] in
theorem interpOf_map {d : Data α β} {φ : β → β} (h : d.IsHom φ) (ops : Ops α) (it : Interp)
    (n : Nat) (g : Nat → β) (loc : α) :
    interpOf ops d it n (fun i => φ (g i)) loc = (interpOf ops d it n g loc).map φ := by
  cases it
  · exact interpNearest_map φ ops n g loc
  · exact interpLinearB_map h ops n g loc
  · exact interpLanczos_map h ops _ n g loc

end Arim.Tfm

namespace Arim.Das
open Arim.Tfm
variable {α β : Type} [Add α] [Sub α] [Mul α] [Div α] [LT α] [DecidableLT α] {d : Data α β}

theorem termNoAmp_weigh (h : ∀ c, d.IsHom (d.smul c)) (ops : Ops α) (p : Problem α β) (w : Nat → α)
    (g0 : Nat → Nat → β) (it : Interp) (pt k : Nat) :
    termNoAmp ops d { p with g := weigh d (some w) g0 } it pt k =
      (termNoAmp ops d { p with g := g0 } it pt k).map (d.smul (w k)) := by
  rw [termNoAmp_eq_interpOf, termNoAmp_eq_interpOf]
  exact interpOf_map (h (w k)) ops it p.n (g0 k) _

end Arim.Das
