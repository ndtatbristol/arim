import Mathlib.Analysis.SpecialFunctions.Trigonometric.ArctanDeriv
import Mathlib.Analysis.SpecialFunctions.Trigonometric.InverseDeriv
import Mathlib.Analysis.SpecialFunctions.Sqrt
/-! Infinitesimal ray pencils at a planar interface, for C06.

2-D, interface = the line `y = 0`, abscissa `s` along it. A point source sits at `S = (a, h)`, `h > 0`.
All dot products are written out in coordinates; every function is scalar valued. -/
namespace Arim.Pencil
open Real

/-- signed incidence angle (from the normal) of the ray from `S = (a, h)` to `P(s) = (s, 0)` -/
noncomputable def th1 (a h s : ℝ) : ℝ := Real.arctan ((s - a) / h)

/-- length of the ray from `S = (a, h)` to `P(s) = (s, 0)` -/
noncomputable def rho1 (a h s : ℝ) : ℝ := Real.sqrt ((s - a) ^ 2 + h ^ 2)

/-- transmitted (or reflected) angle given by Snell's law `sin th2 = κ sin th1`, `κ = vOut / vIn` -/
noncomputable def th2 (a h κ s : ℝ) : ℝ := Real.arcsin (κ * Real.sin (th1 a h s))

/-- Transmission: `F(s) = (V0 - P(s)) ⬝ n(s)` with `V0 = P(s0) - ρ2 • d(s0)`,
`d(s) = (sin th2(s), -cos th2(s))`, `n(s) = (cos th2(s), sin th2(s))`: the signed distance of the candidate
virtual source `V0` from the transmitted ray through `P(s)`. -/
noncomputable def F (a h κ s0 ρ2 s : ℝ) : ℝ :=
  ((s0 - ρ2 * Real.sin (th2 a h κ s0)) - s) * Real.cos (th2 a h κ s)
    + ((0 - ρ2 * (-Real.cos (th2 a h κ s0))) - 0) * Real.sin (th2 a h κ s)

/-- Reflection: the same with `d(s) = (sin th2(s), +cos th2(s))`, `n(s) = (cos th2(s), -sin th2(s))`
(the mirror image `y ↦ -y` of the transmission picture). -/
noncomputable def Frefl (a h κ s0 ρ2 s : ℝ) : ℝ :=
  ((s0 - ρ2 * Real.sin (th2 a h κ s0)) - s) * Real.cos (th2 a h κ s)
    + ((0 - ρ2 * Real.cos (th2 a h κ s0)) - 0) * (-Real.sin (th2 a h κ s))

/-- the interface factor `γ` of the pencil -/
noncomputable def gam (a h κ s0 : ℝ) : ℝ :=
  Real.cos (th2 a h κ s0) ^ 2 / (κ * Real.cos (th1 a h s0) ^ 2)

theorem rho1_pos {a h : ℝ} (hh : 0 < h) (s : ℝ) : 0 < rho1 a h s := by
  unfold rho1; positivity

theorem rho1_sq {a h : ℝ} (s : ℝ) : rho1 a h s ^ 2 = (s - a) ^ 2 + h ^ 2 := by
  unfold rho1; exact Real.sq_sqrt (by positivity)

theorem one_add_sq_div {a h : ℝ} (hh : 0 < h) (s : ℝ) :
    1 + ((s - a) / h) ^ 2 = rho1 a h s ^ 2 / h ^ 2 := by
  rw [rho1_sq, div_pow, add_div, div_self (pow_ne_zero 2 hh.ne'), add_comm]

theorem sqrt_one_add_sq_div {a h : ℝ} (hh : 0 < h) (s : ℝ) :
    Real.sqrt (1 + ((s - a) / h) ^ 2) = rho1 a h s / h := by
  rw [one_add_sq_div hh, Real.sqrt_div (sq_nonneg _), Real.sqrt_sq (rho1_pos hh s).le, Real.sqrt_sq hh.le]

theorem cos_th1 {a h : ℝ} (hh : 0 < h) (s : ℝ) : Real.cos (th1 a h s) = h / rho1 a h s := by
  rw [th1, Real.cos_arctan, sqrt_one_add_sq_div hh, one_div, inv_div]

theorem sin_th1 {a h : ℝ} (hh : 0 < h) (s : ℝ) : Real.sin (th1 a h s) = (s - a) / rho1 a h s := by
  rw [th1, Real.sin_arctan, sqrt_one_add_sq_div hh, div_div_div_cancel_right₀ hh.ne']

theorem cos_th1_pos (a h s : ℝ) : 0 < Real.cos (th1 a h s) := Real.cos_arctan_pos _

/-- the incident ray is never grazing -/
theorem abs_sin_th1_lt_one (a h s : ℝ) : |Real.sin (th1 a h s)| < 1 := by
  rw [← sq_lt_one_iff_abs_lt_one, Real.sin_sq]
  linarith [pow_pos (cos_th1_pos a h s) 2]

/-- below the critical angle the transmitted ray is not grazing -/
theorem cos_th2_pos {a h κ s : ℝ} (hk : |κ * Real.sin (th1 a h s)| < 1) :
    0 < Real.cos (th2 a h κ s) := by
  unfold th2
  rw [Real.cos_arcsin]
  apply Real.sqrt_pos.2
  have := (sq_lt_one_iff_abs_lt_one _).2 hk
  linarith

theorem gam_pos {a h κ s0 : ℝ} (hκ : 0 < κ) (hk : |κ * Real.sin (th1 a h s0)| < 1) :
    0 < gam a h κ s0 := by
  have h1 := cos_th1_pos a h s0
  have h2 := cos_th2_pos hk
  unfold gam; positivity

theorem cos_div_rho1 {a h : ℝ} (hh : 0 < h) (s0 : ℝ) :
    Real.cos (th1 a h s0) / rho1 a h s0 = Real.cos (th1 a h s0) ^ 2 / h := by
  have hr : rho1 a h s0 ≠ 0 := (rho1_pos hh s0).ne'
  rw [cos_th1 hh]; field_simp

/-- the expression that `C06.snell_deriv` proves to be `dth2/ds` is positive: neighbouring transmitted rays are never
parallel -/
theorem th2_deriv_pos {a h κ : ℝ} (hh : 0 < h) (hκ : 0 < κ) (s0 : ℝ)
    (hk : |κ * Real.sin (th1 a h s0)| < 1) :
    0 < κ * Real.cos (th1 a h s0) / Real.cos (th2 a h κ s0) * (Real.cos (th1 a h s0) / rho1 a h s0) := by
  have h1 := cos_th1_pos a h s0
  have h2 := cos_th2_pos hk
  have h3 : 0 < rho1 a h s0 := rho1_pos hh s0
  positivity

/-- the rate at which the transmitted ray turns, `κ cos th1 / cos th2 · (cos th1 / rho1)`, is that of the rays of a
point source at distance `gam · rho1` -/
theorem th2_deriv_eq {a h κ : ℝ} (hh : 0 < h) (hκ : 0 < κ) (s0 : ℝ) (hk : |κ * Real.sin (th1 a h s0)| < 1) :
    κ * Real.cos (th1 a h s0) / Real.cos (th2 a h κ s0) * (Real.cos (th1 a h s0) / rho1 a h s0) =
      Real.cos (th2 a h κ s0) / (gam a h κ s0 * rho1 a h s0) := by
  have h1 := (cos_th1_pos a h s0).ne'
  have h2 := (cos_th2_pos hk).ne'
  have h3 : rho1 a h s0 ≠ 0 := (rho1_pos hh s0).ne'
  have h4 := hκ.ne'
  unfold gam
  field_simp

end Arim.Pencil
