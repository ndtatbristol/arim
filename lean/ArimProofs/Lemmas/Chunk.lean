import ArimModel.Chunk
/-! Helper lemmas for C13 (model `ArimModel/Chunk.lean`): which indices a chunk holds and how many chunks
    there are, the task lists as grids of slices, what a schedule leaves in one cell, the per-tile
    programs, interleavings of task programs, memory with separate input cells. Core Lean only. -/
namespace Arim.C13
open Arim

def inSlice (x : Nat) (r : Nat × Nat) : Bool := decide (r.1 ≤ x) && decide (x < r.2)

def SliceDisjoint (r r' : Nat × Nat) : Prop := ∀ x, ¬ (inSlice x r = true ∧ inSlice x r' = true)

def TileDisjoint (t u : Tile) : Prop := ∀ i j, ¬ (t.mem i j = true ∧ u.mem i j = true)

/-- row slices (outer loop) × column slices (inner loop), in submission order -/
def grid (rs cs : List (Nat × Nat)) : List Tile :=
  rs.flatMap (fun r => cs.map (fun c => ({ r := r, c := c } : Tile)))

theorem minTimesTiles_eq_grid (n m p block : Nat) :
    minTimesTiles n m p block = grid (chunks n (ceilDiv block m)) (chunks p (ceilDiv block m)) := rfl

theorem distTiles_eq_grid (n1 n2 block : Nat) :
    distTiles n1 n2 block = grid (chunks n1 (ceilDiv block 6)) (chunks n2 (ceilDiv block 6)) := rfl

theorem Tile.mem_eq (t : Tile) (i j : Nat) : t.mem i j = (inSlice i t.r && inSlice j t.c) := by
  simp [Tile.mem, inSlice, Bool.and_assoc]

theorem inSlice_iff {x : Nat} {r : Nat × Nat} : inSlice x r = true ↔ r.1 ≤ x ∧ x < r.2 := by
  simp [inSlice]

theorem Tile.mem_iff {t : Tile} {i j : Nat} :
    t.mem i j = true ↔ (t.r.1 ≤ i ∧ i < t.r.2) ∧ t.c.1 ≤ j ∧ j < t.c.2 := by
  rw [Tile.mem_eq, Bool.and_eq_true, inSlice_iff, inSlice_iff]

theorem mem_clip_iff {a c L x : Nat} : min a L ≤ x ∧ x < min c L ↔ x < L ∧ a ≤ x ∧ x < c := by
  omega

theorem lt_numChunks_iff {L b i : Nat} (hb : 0 < b) : i < numChunks L b ↔ i * b < L := by
  rw [numChunks, ceilDiv, Nat.lt_div_iff_mul_lt hb, Nat.add_sub_assoc hb, Nat.add_sub_cancel]

theorem eq_owner_iff {b i x : Nat} (hb : 0 < b) : i = owner b x ↔ i * b ≤ x ∧ x < (i + 1) * b := by
  rw [owner, ← Nat.le_div_iff_mul_le hb, ← Nat.div_lt_iff_lt_mul hb, Nat.lt_succ_iff,
    Nat.le_antisymm_iff]

theorem mem_chunk_iff {L b i x : Nat} (hb : 0 < b) :
    (chunk L b i).1 ≤ x ∧ x < (chunk L b i).2 ↔ x < L ∧ i = owner b x := by
  rw [eq_owner_iff hb]; exact mem_clip_iff

theorem inSlice_chunk {L b : Nat} (hb : 0 < b) (x i : Nat) :
    inSlice x (chunk L b i) = decide (x < L ∧ i = owner b x) := by
  rw [Bool.eq_iff_iff, inSlice_iff, mem_chunk_iff hb, decide_eq_true_iff]

theorem mem_chunks {L b : Nat} {r : Nat × Nat} :
    r ∈ chunks L b ↔ ∃ a, a < numChunks L b ∧ chunk L b a = r := by
  simp [chunks]

theorem length_chunks (L b : Nat) : (chunks L b).length = numChunks L b := by
  simp [chunks]

theorem grid_nil (cs : List (Nat × Nat)) : grid [] cs = [] := rfl

theorem grid_cons (r : Nat × Nat) (rs cs : List (Nat × Nat)) :
    grid (r :: rs) cs = cs.map (fun c => ({ r := r, c := c } : Tile)) ++ grid rs cs := by
  simp [grid]

theorem mem_grid {rs cs : List (Nat × Nat)} {t : Tile} :
    t ∈ grid rs cs ↔ t.r ∈ rs ∧ t.c ∈ cs := by
  simp only [grid, List.mem_flatMap, List.mem_map]
  exact ⟨fun ⟨_, hr, _, hc, e⟩ => e ▸ ⟨hr, hc⟩, fun ⟨hr, hc⟩ => ⟨_, hr, _, hc, rfl⟩⟩

theorem length_grid (rs cs : List (Nat × Nat)) : (grid rs cs).length = rs.length * cs.length := by
  simp only [grid, List.length_flatMap, List.length_map, List.map_const', List.sum_replicate_nat]

theorem grid_countP (rs cs : List (Nat × Nat)) (i j : Nat) :
    (grid rs cs).countP (fun t => t.mem i j) = rs.countP (inSlice i) * cs.countP (inSlice j) := by
  induction rs with
  | nil => simp [grid]
  | cons r rs ih =>
    rw [grid_cons, List.countP_append, ih, List.countP_map, List.countP_cons]
    have hcomp : ((fun t : Tile => t.mem i j) ∘ fun c => ({ r := r, c := c } : Tile))
        = fun c => (inSlice i r && inSlice j c) := by
      funext c; simp [Tile.mem_eq]
    rw [hcomp]
    cases h : inSlice i r
    · simp
    · simp [Nat.add_mul, Nat.add_comm]

theorem grid_any_mem (rs cs : List (Nat × Nat)) (i j : Nat) :
    (grid rs cs).any (fun t => t.mem i j) = (rs.any (inSlice i) && cs.any (inSlice j)) := by
  rw [Bool.eq_iff_iff]
  simp only [List.any_eq_true, Bool.and_eq_true, mem_grid, Tile.mem_eq]
  constructor
  · rintro ⟨t, ⟨hr, hc⟩, h1, h2⟩; exact ⟨⟨t.r, hr, h1⟩, ⟨t.c, hc, h2⟩⟩
  · rintro ⟨⟨r, hr, h1⟩, ⟨c, hc, h2⟩⟩; exact ⟨⟨r, c⟩, ⟨hr, hc⟩, h1, h2⟩

theorem TileDisjoint.of_rows {t u : Tile} (h : SliceDisjoint t.r u.r) : TileDisjoint t u := by
  intro i j
  rw [Tile.mem_eq, Tile.mem_eq, Bool.and_eq_true, Bool.and_eq_true]
  exact fun hh => h i ⟨hh.1.1, hh.2.1⟩

theorem TileDisjoint.of_cols {t u : Tile} (h : SliceDisjoint t.c u.c) : TileDisjoint t u := by
  intro i j
  rw [Tile.mem_eq, Tile.mem_eq, Bool.and_eq_true, Bool.and_eq_true]
  exact fun hh => h j ⟨hh.1.2, hh.2.2⟩

theorem grid_pairwise_disjoint (rs cs : List (Nat × Nat))
    (hr : rs.Pairwise SliceDisjoint) (hc : cs.Pairwise SliceDisjoint) :
    (grid rs cs).Pairwise TileDisjoint := by
  rw [grid, List.pairwise_flatMap]
  refine ⟨fun r _ => List.pairwise_map.2 (hc.imp fun h => .of_cols h), hr.imp fun h x hx y hy => ?_⟩
  obtain ⟨c, -, rfl⟩ := List.mem_map.1 hx
  obtain ⟨c', -, rfl⟩ := List.mem_map.1 hy
  exact .of_rows h

variable {C P V : Type} [DecidableEq C]

/-- the element operation of the kernels: the cell receives the payload, whatever it held -/
def overwrite : C → V → V → V := fun _ v _ => v

theorem runOps_cons (step : C → P → V → V) (s : C → V) (op : C × P) (rest : List (C × P)) :
    runOps step s (op :: rest)
      = runOps step (fun c => if c = op.1 then step op.1 op.2 (s c) else s c) rest := by
  simp [runOps]

theorem runOps_cell (step : C → P → V → V) (s : C → V) (ops : List (C × P)) (c : C) :
    runOps step s ops c = runCell step c (s c) ((ops.filter (fun op => op.1 = c)).map (·.2)) := by
  induction ops generalizing s with
  | nil => rfl
  | cons op rest ih =>
    rw [runOps_cons, ih, List.filter_cons]
    by_cases h : op.1 = c
    · subst h
      simp only [decide_true, if_true, List.map_cons, runCell, List.foldl_cons]
    · rw [if_neg fun e : c = op.1 => h e.symm, if_neg (by simpa using h)]

theorem runOps_overwrite (g : C → V) (s : C → V) (ops : List (C × V))
    (h : ∀ op ∈ ops, op.2 = g op.1) (c : C) :
    runOps overwrite s ops c = if c ∈ ops.map (·.1) then g c else s c := by
  induction ops generalizing s with
  | nil => rfl
  | cons op rest ih =>
    rw [runOps_cons, ih _ fun o ho => h o (List.mem_cons_of_mem _ ho)]
    simp only [List.map_cons, List.mem_cons]
    by_cases hr : c ∈ rest.map (·.1)
    · rw [if_pos hr, if_pos (.inr hr)]
    · by_cases hc : c = op.1
      · rw [if_neg hr, if_pos hc, if_pos (.inl hc), hc, overwrite, h op List.mem_cons_self]
      · rw [if_neg hr, if_neg hc, if_neg (not_or.2 ⟨hc, hr⟩)]

theorem runOps_overwrite_perm (g : C → V) (s : C → V) (cells : List C) (ops : List (C × V))
    (h : ops.Perm (cells.map fun c => (c, g c))) (c : C) :
    runOps overwrite s ops c = if c ∈ cells then g c else s c := by
  have hval : ∀ op ∈ ops, op.2 = g op.1 := fun op hop => by
    obtain ⟨c, -, rfl⟩ := List.mem_map.1 (h.mem_iff.1 hop); rfl
  have hmem : c ∈ ops.map (·.1) ↔ c ∈ cells := by
    rw [(h.map _).mem_iff, List.map_map]
    exact List.mem_map.trans ⟨fun ⟨_, h, e⟩ => e ▸ h, fun h => ⟨c, h, rfl⟩⟩
  rw [runOps_overwrite g s ops hval]
  simp only [hmem]

/-- the program of one task: its cells in row-major order, each written with `f i j` -/
def tileOps (f : Nat → Nat → V) (t : Tile) : List ((Nat × Nat) × V) :=
  (List.range' t.r.1 (t.r.2 - t.r.1)).flatMap (fun i =>
    (List.range' t.c.1 (t.c.2 - t.c.1)).map (fun j => ((i, j), f i j)))

def tileCells (t : Tile) : List (Nat × Nat) :=
  (List.range' t.r.1 (t.r.2 - t.r.1)).flatMap fun i =>
    (List.range' t.c.1 (t.c.2 - t.c.1)).map fun j => (i, j)

theorem tileOps_eq (f : Nat → Nat → V) (t : Tile) :
    tileOps f t = (tileCells t).map fun c => (c, f c.1 c.2) := by
  simp only [tileOps, tileCells, List.map_flatMap, List.map_map, Function.comp_def]

theorem mem_tileCells {t : Tile} {c : Nat × Nat} : c ∈ tileCells t ↔ t.mem c.1 c.2 = true := by
  have hr : ∀ {s e m : Nat}, m ∈ List.range' s (e - s) ↔ s ≤ m ∧ m < e := by
    intro s e m; rw [List.mem_range'_1]; omega
  simp only [tileCells, List.mem_flatMap, List.mem_map, hr, Tile.mem_iff]
  exact ⟨fun ⟨_, hi, _, hj, e⟩ => e ▸ ⟨hi, hj⟩, fun ⟨hi, hj⟩ => ⟨_, hi, _, hj, rfl⟩⟩

theorem mem_tileOps (f : Nat → Nat → V) (t : Tile) (op : (Nat × Nat) × V) :
    op ∈ tileOps f t ↔ (t.mem op.1.1 op.1.2 = true ∧ op.2 = f op.1.1 op.1.2) := by
  rw [tileOps_eq, List.mem_map, ← mem_tileCells]
  exact ⟨fun ⟨_, hc, e⟩ => e ▸ ⟨hc, rfl⟩, fun ⟨hc, e⟩ => ⟨_, hc, Prod.ext rfl e.symm⟩⟩

theorem runOps_tiles_perm (f : Nat → Nat → V) (s : Nat × Nat → V) (tiles : List Tile)
    (ops : List ((Nat × Nat) × V)) (h : ops.Perm (tiles.flatMap (tileOps f))) (i j : Nat) :
    runOps overwrite s ops (i, j)
      = if tiles.any (fun t => t.mem i j) = true then f i j else s (i, j) := by
  have e : tiles.flatMap (tileOps f) = (tiles.flatMap tileCells).map fun c => (c, f c.1 c.2) := by
    rw [List.map_flatMap]; exact congrArg (List.flatMap · tiles) (funext (tileOps_eq f))
  rw [runOps_overwrite_perm (fun c => f c.1 c.2) s _ ops (e ▸ h)]
  simp only [List.mem_flatMap, mem_tileCells, List.any_eq_true]

/-- `ops` is obtained by repeatedly taking the *next* operation of some task `k` that still has one:
every merge of the task programs that keeps each task's own order. Sequential execution in any task
order, and every execution by any number of workers with any completion order, are instances. -/
inductive Interleaving {α : Type} : List (List α) → List α → Prop
  | done {progs : List (List α)} : (∀ p ∈ progs, p = []) → Interleaving progs []
  | step {progs : List (List α)} {k : Nat} {a : α} {rest ops : List α} :
      progs[k]? = some (a :: rest) → Interleaving (progs.set k rest) ops →
      Interleaving progs (a :: ops)

theorem flatten_perm_of_getElem? {α : Type} (progs : List (List α)) (k : Nat) (a : α)
    (rest : List α) (hk : progs[k]? = some (a :: rest)) :
    progs.flatten.Perm (a :: (progs.set k rest).flatten) := by
  obtain ⟨hk', e⟩ := List.getElem?_eq_some_iff.1 hk
  have e2 : progs = progs.take k ++ (a :: rest) :: progs.drop (k + 1) := by
    rw [← e, ← List.drop_eq_getElem_cons hk', List.take_append_drop]
  rw [List.set_eq_take_append_cons_drop, if_pos hk']
  refine (List.Perm.of_eq (congrArg List.flatten e2)).trans ?_
  simp only [List.flatten_append, List.flatten_cons, List.cons_append]
  exact List.perm_middle

theorem Interleaving.perm {α : Type} {progs : List (List α)} {ops : List α}
    (h : Interleaving progs ops) : ops.Perm progs.flatten := by
  induction h with
  | done hall => rw [List.flatten_eq_nil_iff.2 hall]
  | step hk _ ih =>
    exact (List.Perm.cons _ ih).trans (flatten_perm_of_getElem? _ _ _ _ hk).symm

theorem Interleaving.perm_flatMap {α β : Type} {g : β → List α} {tasks : List β} {ops : List α}
    (h : Interleaving (tasks.map g) ops) : ops.Perm (tasks.flatMap g) :=
  List.flatMap_def ▸ h.perm

theorem Interleaving.cons_nil {α : Type} {progs : List (List α)} {ops : List α}
    (h : Interleaving progs ops) : Interleaving ([] :: progs) ops := by
  induction h with
  | done hall => exact .done (List.forall_mem_cons.2 ⟨rfl, hall⟩)
  | @step progs k a rest ops hk _ ih => exact .step (k := k + 1) (rest := rest) hk ih

/-- sequential execution, task after task in list order -/
theorem Interleaving.flatten {α : Type} (progs : List (List α)) :
    Interleaving progs progs.flatten := by
  induction progs with
  | nil => exact Interleaving.done (by simp)
  | cons p ps ih =>
    induction p with
    | nil => exact ih.cons_nil
    | cons a rest ihp => exact .step (k := 0) (rest := rest) rfl ihp

/-- an interleaving restricted to the operations of task `t` is task `t`'s program (`hown`: every operation of
program `k` carries the key `k`) -/
theorem Interleaving.filter_eq {α : Type} (key : α → Nat) {progs : List (List α)}
    {ops : List α} (h : Interleaving progs ops)
    (hown : ∀ k prog, progs[k]? = some prog → ∀ x ∈ prog, key x = k) (t : Nat) :
    ops.filter (fun x => key x = t) = (progs[t]?).getD [] := by
  induction h with
  | @done progs hall =>
    cases hp : progs[t]? with
    | none => rfl
    | some p => exact (hall p (List.mem_of_getElem? hp)).symm
  | @step progs k a rest ops hk _ ih =>
    obtain ⟨hklt, -⟩ := List.getElem?_eq_some_iff.1 hk
    have hown' : ∀ k' prog, (progs.set k rest)[k']? = some prog → ∀ x ∈ prog, key x = k' := by
      intro k' prog hp x hx
      rw [List.getElem?_set] at hp
      split at hp
      · next e =>
        cases hp
        exact e ▸ hown k _ hk x (List.mem_cons_of_mem _ hx)
      · exact hown k' prog hp x hx
    rw [List.filter_cons, ih hown', List.getElem?_set, hown k _ hk a List.mem_cons_self]
    -- the step takes the head `a` of program `k`. For `t = k` the filter keeps `a` in front of `rest`, which is program
    -- `k` before the step; for `t ≠ k` it drops `a`, and the step leaves program `t` alone
    by_cases h : k = t
    · subst h
      rw [if_pos (decide_eq_true rfl), if_pos rfl, if_pos hklt, hk]; rfl
    · rw [if_neg (by simpa using h), if_neg h]

section Mem
variable {In Out : Type} [DecidableEq In] [DecidableEq Out]

/-- Memory = inputs (`Sum.inl`) and outputs (`Sum.inr`). An operation addressed to output cell
`o` may read *all current inputs* and the current value of its own cell, and writes its cell. -/
def runMem (step : (In → V) → Out → P → V → V) (mem : Sum In Out → V) (ops : List (Out × P)) :
    Sum In Out → V :=
  ops.foldl (fun mem op => fun c =>
    if c = Sum.inr op.1 then step (fun a => mem (Sum.inl a)) op.1 op.2 (mem c) else mem c) mem

theorem runMem_cons (step : (In → V) → Out → P → V → V) (mem : Sum In Out → V)
    (op : Out × P) (rest : List (Out × P)) :
    runMem step mem (op :: rest)
      = runMem step (fun c => if c = Sum.inr op.1
          then step (fun a => mem (Sum.inl a)) op.1 op.2 (mem c) else mem c) rest := by
  simp [runMem]

end Mem

end Arim.C13
