import ArimModel.Probe
import ArimProofs.Lemmas.Geometry
import Mathlib.Tactic.Ring
import Mathlib.Tactic.LinearCombination
/-! Helper lemmas for C16, over an arbitrary commutative ring: proper rotations and coordinate
    systems (the 3×3 algebra itself is in `Lemmas/Geometry.lean`), and the list sums behind
    `make_matrix_probe`. -/
namespace Arim.C16
open Arim Arim.Geo Arim.Probe Arim.C17

variable {K : Type} [CommRing K]

/-- squared distance: the form in which C16 compares distances between elements, free of square roots so that a
commutative ring suffices -/
def sqdist (a b : P3 K) : K := dot (vsub a b) (vsub a b)

def det (r : M3 K) : K := dot r.r0 (cross r.r1 r.r2)

theorem det_eq (r : M3 K) : det r = C17.det r := rfl

/-- a proper rotation: what C16 assumes of the matrix handed to `Probe.rotate` (`OpOk`); `flip`'s `rotZ` and the change
of frame of `reset` are instances (`rotZ_proper`, `reset_proper`) -/
structure Proper (r : M3 K) : Prop where
  rows : Orthonormal r
  cols : Orthonormal r.transpose
  det1 : det r = 1

/-- the probe frame is orthonormal (`k̂ = î × ĵ` by definition of `CS`): assumed of the initial probe, kept by every
operation; arim's `CoordinateSystem` checks the two norms only -/
structure GoodCS (cs : CS K) : Prop where
  ii : dot cs.i cs.i = 1
  jj : dot cs.j cs.j = 1
  ij : dot cs.i cs.j = 0

def e1 : P3 K := ⟨1, 0, 0⟩
def e2 : P3 K := ⟨0, 1, 0⟩
def e3 : P3 K := ⟨0, 0, 1⟩

theorem mulVec_vadd (r : M3 K) (a b : P3 K) : mulVec r (vadd a b) = vadd (mulVec r a) (mulVec r b) :=
  (C17.mulVec_vadd r a b).symm

theorem vadd_neg3 (a : P3 K) : vadd a (neg3 a) = zero3 := by
  simp only [zero3, vadd, neg3, add_neg_cancel]

/-- the field `cols` is redundant: over a commutative ring `R Rᵀ = 1` gives `Rᵀ R = 1` -/
theorem Proper.of_rows_det {r : M3 K} (h : Orthonormal r) (hd : C17.det r = 1) : Proper r :=
  ⟨h, orthonormal_transpose r h, (det_eq r).trans hd⟩

theorem cross_mulVec (r : M3 K) (h : Proper r) (a b : P3 K) :
    cross (mulVec r a) (mulVec r b) = mulVec r (cross a b) := by
  rw [cross_mulVec_mulVec h.rows, ← det_eq, h.det1]
  simp only [one_mul]

theorem rotZ_proper (c s : K) (h : c * c + s * s = 1) : Proper (rotZ 0 1 c s) :=
  .of_rows_det (rotZ_orthonormal c s h) (rotZ_det c s h)

theorem fromGcs_eq' (cs : CS K) (p : P3 K) :
    cs.fromGcs p = ⟨dot (vsub p cs.origin) cs.i, dot (vsub p cs.origin) cs.j,
      dot (vsub p cs.origin) (cross cs.i cs.j)⟩ := rfl

theorem CS.rotate_origin (cs : CS K) (r : M3 K) (c : Option (P3 K)) :
    (cs.rotate r c).origin = rotate cs.origin r c := rfl

theorem CS.rotate_k (cs : CS K) (r : M3 K) (h : Proper r) (c : Option (P3 K)) :
    (cs.rotate r c).k = mulVec r cs.k := by
  simp only [CS.k, cs_rotate_eq, cross_mulVec r h]

theorem GoodCS.rotate {cs : CS K} (g : GoodCS cs) (r : M3 K) (h : Proper r) (c : Option (P3 K)) :
    GoodCS (cs.rotate r c) := by
  constructor <;> simp only [cs_rotate_eq, dot_mulVec r _ _ h.cols]
  exacts [g.ii, g.jj, g.ij]

theorem rotate_fromGcs (cs : CS K) (r : M3 K) (h : Proper r) (c : Option (P3 K)) (p : P3 K) :
    (cs.rotate r c).fromGcs (rotate p r c) = cs.fromGcs p := by
  simp only [fromGcs_eq', cs_rotate_eq, rotate_vsub, cross_mulVec r h, dot_mulVec r _ _ h.cols]

/-- `rotate_fromGcs` with the frame's origin forced to `0` and the point rotated about the origin:
    how `orientations_pcs` treats the normals -/
theorem rotate_fromGcs_normal (cs : CS K) (r : M3 K) (h : Proper r) (c : Option (P3 K)) (n : P3 K) :
    ({ cs.rotate r c with origin := ⟨0, 0, 0⟩ } : CS K).fromGcs (rotate n r none)
      = ({ cs with origin := ⟨0, 0, 0⟩ } : CS K).fromGcs n := by
  have hz : ∀ v : P3 K, vsub v ⟨0, 0, 0⟩ = v := vsub_zero3
  simp only [fromGcs_eq', hz, rotate, cs_rotate_eq, cross_mulVec r h, dot_mulVec r _ _ h.cols]

/-- `set_reference_element`: moving only the origin shifts all PCS coordinates by one vector -/
theorem set_reference_shift (cs : CS K) (o p : P3 K) :
    ({ cs with origin := o } : CS K).fromGcs p = vsub (cs.fromGcs p) (cs.fromGcs o) := by
  rw [cs_fromGcs_eq, cs_fromGcs_eq, cs_fromGcs_eq, fromGcs, fromGcs, fromGcs, mulVec_vsub,
    vsub_vsub_cancel]
  rfl

theorem set_reference_origin (cs : CS K) : cs.fromGcs cs.origin = zero3 := by
  rw [cs_fromGcs_eq, fromGcs, vsub_self, mulVec_zero3]

theorem translate_fromGcs (cs : CS K) (p v : P3 K) :
    (cs.translate v).fromGcs (vadd p v) = cs.fromGcs p := by
  rw [cs_fromGcs_eq, cs_fromGcs_eq]
  exact congrArg (mulVec cs.rows) (vadd_vsub_cancel_right p cs.origin v)

theorem fromGcs_std (p : P3 K) : (⟨zero3, e1, e2⟩ : CS K).fromGcs p = p := by
  simp only [fromGcs_eq', zero3, e1, e2, vsub, dot, cross, sub_zero, mul_one, mul_zero, add_zero,
    sub_self, zero_add]

theorem rows_proper {cs : CS K} (g : GoodCS cs) : Proper cs.rows :=
  .of_rows_det (frame_orthonormal _ _ g.ii g.jj g.ij) (frame_det _ _ g.ii g.jj g.ij)

section lists

def fsum (l : List K) : K := l.foldl (· + ·) 0

theorem fsum_eq_sum (l : List K) : fsum l = l.sum := List.sum_eq_foldl.symm

theorem fsum_nil : fsum ([] : List K) = 0 := rfl

/-- Gauss' sum `Σ_{k<n} k p = n (n − 1) p / 2`, stated doubled: `K` is only a commutative ring, where `2` need not be
invertible -/
theorem sum_range_mul (n : Nat) (p : K) :
    2 * ((List.range n).map (fun (k : Nat) => (k : K) * p)).sum = n * (n - 1) * p := by
  induction n with
  | zero => rw [Nat.cast_zero, zero_mul, zero_mul]; exact mul_zero 2
  | succ n ih => rw [List.sum_range_succ, Nat.cast_succ]; linear_combination ih

/-- the axis values of `make_matrix_probe` are `k * pitch` in every case: for a single element the
    pitch is ignored, but then `k = 0` -/
theorem axis_eq (n : Nat) (p : K) :
    (List.range n).map (fun (k : Nat) => if n > 1 then (k : K) * p else (k : K))
      = (List.range n).map (fun (k : Nat) => (k : K) * p) := by
  apply List.map_congr_left
  intro k hk
  rw [List.mem_range] at hk
  split
  · rfl
  · have : k = 0 := by omega
    subst this; simp

theorem sum_map_const {β : Type} (l : List β) (c : K) : (l.map (fun _ => c)).sum = l.length * c := by
  rw [List.map_const', List.sum_replicate, nsmul_eq_mul]

theorem sum_map_sub_const (l : List K) (m : K) :
    (l.map (fun x => x - m)).sum = l.sum - l.length * m := by
  induction l with
  | nil => simp
  | cons y l ih => simp only [List.map_cons, List.sum_cons, ih, List.length_cons, Nat.cast_succ]; ring

theorem foldl_vadd (l : List (P3 K)) (a : P3 K) :
    l.foldl vadd a = ⟨a.x + (l.map (·.x)).sum, a.y + (l.map (·.y)).sum, a.z + (l.map (·.z)).sum⟩ := by
  induction l generalizing a with
  | nil => simp
  | cons p l ih =>
    rw [List.foldl_cons, ih]
    apply P3.ext' <;> simp only [List.map_cons, List.sum_cons, vadd, add_assoc]

theorem tiled_sum (xs ys : List K) (mx my : K) (hx : (xs.map (fun x => x - mx)).sum = 0)
    (hy : (ys.map (fun y => y - my)).sum = 0) :
    (ys.flatMap (fun y => xs.map (fun x => (⟨x - mx, y - my, 0⟩ : P3 K)))).foldl vadd ⟨0, 0, 0⟩
      = zero3 := by
  rw [foldl_vadd]
  apply P3.ext' <;>
    simp only [List.flatMap_def, List.map_flatten, List.sum_flatten, List.map_map,
      Function.comp_def, sum_map_const, zero3, zero_add]
  · rw [hx, mul_zero]
  · rw [List.sum_map_mul_left, hy, mul_zero]
  · rw [mul_zero, mul_zero]

end lists

deriving instance DecidableEq for State

end Arim.C16
