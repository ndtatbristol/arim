import ArimModel.RayCache
/-! Python's integer index on a sequence of length `n` (`RayCache.norm`: `r` or `r + n`, else `IndexError`) and the
clamping of a slice bound (`slice.indices`).  Core only. -/

namespace Arim.RayCache

theorem norm_natCast {n a : Nat} (h : a < n) : norm n (a : Int) = some a := by
  rw [norm, if_pos ⟨Int.natCast_nonneg a, Int.ofNat_lt.2 h⟩, Int.toNat_natCast]

theorem norm_natCast_sub {n a : Nat} (h : a < n) : norm n ((a : Int) - n) = some a := by
  rw [norm, if_neg (by omega), if_pos (by omega), Int.sub_add_cancel, Int.toNat_natCast]

theorem norm_of_out {n : Nat} {r : Int} (h : r < -(n : Int) ∨ (n : Int) ≤ r) : norm n r = none := by
  rw [norm, if_neg (by omega), if_neg (by omega)]

theorem norm_cases (n : Nat) (r : Int) :
    (r < -(n : Int) ∨ (n : Int) ≤ r) ∨ ∃ a : Nat, a < n ∧ (r = a ∨ r = (a : Int) - n) := by
  by_cases h0 : 0 ≤ r
  · obtain ⟨k, rfl⟩ := Int.eq_ofNat_of_zero_le h0
    by_cases hk : k < n
    · exact Or.inr ⟨k, hk, Or.inl rfl⟩
    · exact Or.inl (Or.inr (by omega))
  · by_cases hn : -(n : Int) ≤ r
    · obtain ⟨k, hk⟩ := Int.eq_ofNat_of_zero_le (a := r + n) (by omega)
      exact Or.inr ⟨k, by omega, Or.inr (by omega)⟩
    · exact Or.inl (Or.inl (by omega))

theorem norm_eq_some_iff {n : Nat} {r : Int} {a : Nat} :
    norm n r = some a ↔ a < n ∧ (r = (a : Int) ∨ r = (a : Int) - (n : Int)) := by
  constructor
  · intro h
    rcases norm_cases n r with ho | ⟨k, hk, rfl | rfl⟩
    · rw [norm_of_out ho] at h; cases h
    · rw [norm_natCast hk] at h; cases h; exact ⟨hk, Or.inl rfl⟩
    · rw [norm_natCast_sub hk] at h; cases h; exact ⟨hk, Or.inr rfl⟩
  · rintro ⟨h, rfl | rfl⟩
    · exact norm_natCast h
    · exact norm_natCast_sub h

theorem norm_eq_none_iff {n : Nat} {r : Int} :
    norm n r = none ↔ r < -(n : Int) ∨ (n : Int) ≤ r := by
  refine ⟨fun h => ?_, norm_of_out⟩
  rcases norm_cases n r with ho | ⟨k, hk, rfl | rfl⟩
  · exact ho
  · rw [norm_natCast hk] at h; cases h
  · rw [norm_natCast_sub hk] at h; cases h

theorem norm_lt {n : Nat} {r : Int} {a : Nat} (h : norm n r = some a) : a < n :=
  (norm_eq_some_iff.1 h).1

theorem norm_neg {n : Nat} {r : Int} (h : -(n : Int) ≤ r ∧ r < 0) :
    norm n r = some (r + (n : Int)).toNat := by
  rw [norm, if_neg (by omega), if_pos (by omega)]

theorem norm_add_len {n : Nat} {r : Int} (h : -(n : Int) ≤ r ∧ r < 0) :
    norm n (r + (n : Int)) = some (r + (n : Int)).toNat := by
  rw [norm, if_pos (by omega)]

theorem norm_pred {n : Nat} {r : Int} {a : Nat} (h : norm n r = some a) (ha : a ≠ 0) :
    norm n (r - 1) = some (a - 1) := by
  obtain ⟨b, rfl⟩ := Nat.exists_eq_succ_of_ne_zero ha
  obtain ⟨h1, rfl | rfl⟩ := norm_eq_some_iff.1 h
  · rw [Int.natCast_succ, Int.add_sub_cancel]; exact norm_natCast (Nat.lt_of_succ_lt h1)
  · rw [show ((b + 1 : Nat) : Int) - n - 1 = (b : Int) - n by omega]
    exact norm_natCast_sub (Nat.lt_of_succ_lt h1)

theorem norm_succ {n : Nat} {r : Int} {a : Nat} (h : norm n r = some a) (ha : a ≠ n - 1) :
    norm n (r + 1) = some (a + 1) := by
  have h2 : a + 1 < n := by have := (norm_eq_some_iff.1 h).1; omega
  obtain ⟨-, rfl | rfl⟩ := norm_eq_some_iff.1 h
  · exact norm_natCast h2
  · rw [show (a : Int) - n + 1 = ((a + 1 : Nat) : Int) - n by omega]; exact norm_natCast_sub h2

end Arim.RayCache

namespace Arim.PyIndex

/-- the clamping of a slice bound done by CPython `slice.indices`, between the limits `lo` and `hi` that depend on
    the sign of the step -/
def clamp (n : Nat) (lo hi : Int) (v : Option Int) (dflt : Int) : Int :=
  match v with
  | none => dflt
  | some s => if s < 0 then max (s + (n : Int)) lo else min s hi

/-- a clamped bound stays between the limits. `h0` and `hn` are what the two limit pairs of `slice.indices`, `(0, n)` for
a positive and `(−1, n − 1)` for a negative step, have in common: a non-negative bound is then at least `lo`, and a
negative one, wrapped to `s + n ≤ n − 1`, at most `hi` -/
theorem clamp_bounds {n : Nat} {lo hi : Int} (v : Option Int) {dflt : Int} (h0 : lo ≤ 0)
    (hn : (n : Int) - 1 ≤ hi) (hd : lo ≤ dflt ∧ dflt ≤ hi) :
    lo ≤ clamp n lo hi v dflt ∧ clamp n lo hi v dflt ≤ hi := by
  cases v with
  | none => exact hd
  | some s =>
    have hlh := Int.le_trans hd.1 hd.2
    simp only [clamp]
    split
    · exact ⟨Int.le_max_right _ _, Int.max_le.2 ⟨by omega, hlh⟩⟩
    · exact ⟨Int.le_min.2 ⟨by omega, hlh⟩, Int.min_le_right _ _⟩

end Arim.PyIndex
