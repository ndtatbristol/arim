import ArimModel.Weights
import ArimProofs.Lemmas.Ifaces
import ArimProofs.Lemmas.FoldSum
import Mathlib.Algebra.BigOperators.Field
import Mathlib.Algebra.BigOperators.Ring.Finset
import Mathlib.Algebra.BigOperators.Intervals
import Mathlib.Tactic.FieldSimp
import Mathlib.Tactic.Ring
import Mathlib.Tactic.LinearCombination
/-! The loops of the path-term model `ArimModel/Weights.lean` in closed form: the attenuation fold is a sum (`foldl_sub_eq`;
`C07.attenuation_eq_sum` is its use), the transmission/reflection loop a product (or the `physics` error), the nested loops of the virtual distance a Horner
recursion; and the algebra of the ray-tube factor `γ`. -/
namespace Arim.Weights
open Arim.Iface

section atten
variable {K : Type} [CommRing K]

theorem foldl_sub_eq (l : List (K × K)) (z : K) :
    l.foldl (fun acc p => acc - p.1 * p.2) z = z - (l.map (fun p => p.1 * p.2)).sum := by
  rw [sub_eq_add_neg, List.sum_neg, List.map_map, ← foldl_add_eq, List.foldl_map]
  simp only [Function.comp_apply, sub_eq_add_neg]

end atten

section foldlM
variable {σ α β ε : Type} (f : σ → Except ε α) (g : β → α → β)

theorem foldlM_ok {l : List σ} {cs : List α} (h : List.Forall₂ (fun s c => f s = .ok c) l cs) (acc : β) :
    l.foldlM (fun acc s => do let c ← f s; pure (g acc c)) acc = .ok (cs.foldl g acc) := by
  induction h generalizing acc with
  | nil => rfl
  | cons hc _ ih => rw [List.foldlM_cons, hc]; exact ih _

theorem foldlM_error {l : List σ} {e : ε} (hall : ∀ s ∈ l, ∀ e', f s = .error e' → e' = e)
    (hex : ∃ s ∈ l, ∃ e', f s = .error e') (acc : β) :
    l.foldlM (fun acc s => do let c ← f s; pure (g acc c)) acc = .error e := by
  induction l generalizing acc with
  | nil => simp at hex
  | cons s l ih =>
    rw [List.foldlM_cons]
    cases hs : f s with
    | error e' => rw [hall s List.mem_cons_self e' hs]; rfl
    | ok c =>
      refine ih (fun s' hs' => hall s' (List.mem_cons_of_mem _ hs')) ?_ _
      obtain ⟨s', hs', e', he⟩ := hex
      rcases List.mem_cons.1 hs' with rfl | hmem
      · rw [hs] at he; cases he
      · exact ⟨s', hmem, e', he⟩

end foldlM

section accmul
variable {C : Type} [CommMonoid C]

/-- one step of the accumulator of `transRefl` -/
def accMul (acc : Option C) (c : C) : Option C :=
  match acc with | none => some c | some a => some (a * c)

theorem foldl_accMul_some (cs : List C) (a : C) :
    cs.foldl accMul (some a) = some (a * cs.prod) := by
  induction cs generalizing a with
  | nil => simp
  | cons c cs ih => simp [accMul, ih, mul_assoc]

theorem foldl_accMul_none (cs : List C) :
    cs.foldl accMul none = if cs = [] then none else some cs.prod := by
  cases cs with
  | nil => simp
  | cons c cs => simp [accMul, foldl_accMul_some]

end accmul

section prod
variable {C : Type} [CommMonoid C] [Add C] [Sub C] [Div C] [Neg C]

/-- the only error a coefficient can raise is `physics`: a transmission with a transverse wave on the fluid side;
a reflection never fails -/
theorem coef_error {t : CTrig C} {m : Media C} {disp : Bool} {s : IfaceSpec C} {e : IErr}
    (h : coef t m disp s = .error e) : e = .physics := by
  unfold coef at h
  split at h
  · unfold transmissionAt at h
    split at h <;> split at h <;> cases h <;> rfl
  · unfold reflectionAt at h
    split at h <;> cases h

variable (t : CTrig C) (m : Media C) (disp : Bool)

/-- the value of a coefficient, `1` for an error (only used where there is no error) -/
def coefVal (s : IfaceSpec C) : C :=
  match coef t m disp s with | .ok c => c | .error _ => 1

theorem coef_cases (s : IfaceSpec C) :
    coef t m disp s = .ok (coefVal t m disp s) ∨ coef t m disp s = .error .physics := by
  unfold coefVal
  cases h : coef t m disp s with
  | ok c => left; rfl
  | error e => right; rw [coef_error h]

theorem transRefl_eq_foldlM (specs : List (IfaceSpec C)) :
    transRefl t m disp specs =
      specs.foldlM (fun acc s => do let c ← coef t m disp s; pure (accMul acc c)) none := rfl

theorem transRefl_of_forall₂ {specs : List (IfaceSpec C)} {cs : List C}
    (h : List.Forall₂ (fun s c => coef t m disp s = .ok c) specs cs) :
    transRefl t m disp specs = .ok (if specs = [] then none else some cs.prod) := by
  rw [transRefl_eq_foldlM, foldlM_ok _ _ h, foldl_accMul_none]
  simp only [← List.length_eq_zero_iff, h.length_eq]

theorem transRefl_ok (l : List (IfaceSpec C))
    (h : ∀ s ∈ l, coef t m disp s = .ok (coefVal t m disp s)) :
    transRefl t m disp l =
      .ok (if l = [] then none else some (l.map (coefVal t m disp)).prod) :=
  transRefl_of_forall₂ t m disp (List.forall₂_map_right_iff.2 (List.forall₂_same.2 h))

theorem transRefl_error (l : List (IfaceSpec C))
    (h : ∃ s ∈ l, ∃ e, coef t m disp s = .error e) :
    transRefl t m disp l = .error .physics :=
  foldlM_error _ _ (fun _ _ _ => coef_error) h none

/-- multiplication commutes, and whichever coefficient fails first the error is `physics` -/
theorem transRefl_perm {l l' : List (IfaceSpec C)} (hp : l.Perm l') :
    transRefl t m disp l = transRefl t m disp l' := by
  by_cases h : ∀ s ∈ l, coef t m disp s = .ok (coefVal t m disp s)
  · rw [transRefl_ok t m disp l h, transRefl_ok t m disp l' fun s hs => h s (hp.mem_iff.2 hs),
      (hp.map _).prod_eq]
    simp only [← List.length_eq_zero_iff, hp.length_eq]
  · have h' : ∃ s ∈ l, ∃ e, coef t m disp s = .error e := by
      by_contra hne
      exact h fun s hs => (coef_cases t m disp s).resolve_right fun he => hne ⟨s, hs, _, he⟩
    rw [transRefl_error t m disp l h', transRefl_error t m disp l' (by simpa only [hp.mem_iff] using h')]

end prod

section vd
variable {K : Type} [Field K]

theorem take_prod_eq (gs : List K) (n : ℕ) :
    (gs.take n).prod = ∏ i ∈ Finset.range n, gs.getD i 1 := by
  induction gs generalizing n with
  | nil => simp
  | cons g gs ih =>
    cases n with
    | zero => rfl
    | succ n =>
      rw [List.take_succ_cons, List.prod_cons, ih, Finset.prod_range_succ', List.getD_cons_zero, mul_comm]
      rfl

theorem virtualDistance_cons_take (r₁ : K) (rest gs : List K) :
    virtualDistance 1 (r₁ :: rest) gs =
      r₁ + ∑ k ∈ Finset.range rest.length, rest.getD k 1 / (gs.take (k + 1)).prod := by
  rw [virtualDistance_cons, foldl_range_add (fun k => rest.getD k 1 / (gs.take (k + 1)).foldl (· * ·) 1)]
  congr 1
  apply Finset.sum_congr rfl
  intro k _
  rw [List.prod_eq_foldl]

/-- Horner form of the nested loops. No condition on `γ`: for `γ = 0` every later term is divided by `0` on both
sides. -/
theorem virtualDistance_cons_cons (r₁ r₂ γ : K) (rest gs : List K) :
    virtualDistance 1 (r₁ :: r₂ :: rest) (γ :: gs) = r₁ + virtualDistance 1 (r₂ :: rest) gs / γ := by
  -- both sides in closed form (`virtualDistance_cons_take`); on the left the term `k = 0` is `r₂ / γ`, and in every later
  -- term the product of factors starts with `γ`
  rw [virtualDistance_cons_take, virtualDistance_cons_take, List.length_cons,
    Finset.sum_range_succ', add_div, Finset.sum_div, add_comm (r₂ / γ)]
  simp only [List.getD_cons_succ, List.take_succ_cons, List.prod_cons, List.getD_cons_zero,
    List.take_zero, List.prod_nil, mul_one, div_mul_eq_div_div_swap]

/-- interface factors that have run out count as `1` -/
theorem virtualDistance_cons_cons_nil (r₁ r₂ : K) (rest : List K) :
    virtualDistance 1 (r₁ :: r₂ :: rest) [] = r₁ + virtualDistance 1 (r₂ :: rest) [] := by
  rw [virtualDistance_cons_take, virtualDistance_cons_take, List.length_cons, Finset.sum_range_succ', add_comm _ (_ / _)]
  simp only [List.getD_cons_succ, List.getD_cons_zero, List.take_nil, List.prod_nil, div_one]

theorem virtualDistance_head_add (a b : K) (rest gs : List K) :
    virtualDistance 1 ((a + b) :: rest) gs = a + virtualDistance 1 (b :: rest) gs := by
  rw [virtualDistance_cons_take, virtualDistance_cons_take, add_assoc]

/-- one interface and one leg: `ρ ↦ γ ρ + r`, the rest of the path sees the tube divided by `γ` -/
theorem virtualDistance_step (ρ r γ : K) (rest gs : List K) (hγ : γ ≠ 0) :
    virtualDistance 1 (ρ :: r :: rest) (γ :: gs) = virtualDistance 1 ((γ * ρ + r) :: rest) gs / γ := by
  rw [virtualDistance_cons_cons, virtualDistance_head_add, add_div, mul_div_cancel_left₀ _ hγ]

theorem virtualDistance_step_nil (ρ r : K) (rest : List K) :
    virtualDistance 1 (ρ :: r :: rest) [] = virtualDistance 1 ((ρ + r) :: rest) [] := by
  rw [virtualDistance_cons_cons_nil, virtualDistance_head_add]

theorem virtualDistance_snoc (L G : List K) (x g : K) (hlen : G.length + 1 = L.length) :
    virtualDistance 1 (L ++ [x]) (G ++ [g]) = virtualDistance 1 L G + x / (G ++ [g]).prod :=
  match L, G, hlen with
  | [l], [], _ => by
    rw [List.nil_append, List.prod_singleton]; exact virtualDistance_cons_cons l x g [] []
  | l₁ :: l₂ :: L, γ :: G, hlen => by
    -- Horner step on both sides, the recursive call inside:
    -- `l₁ + (vd (l₂ :: L) G + x / ∏) / γ = l₁ + vd (l₂ :: L) G / γ + x / (γ · ∏)` with `∏ = (G ++ [g]).prod`
    rw [List.cons_append, List.cons_append, List.cons_append, virtualDistance_cons_cons, virtualDistance_cons_cons,
      ← List.cons_append, virtualDistance_snoc (l₂ :: L) G x g (Nat.succ.inj hlen), List.prod_cons, add_div, div_div,
      mul_comm _ γ, add_assoc]

/-- the reverse beamspread routine uses the inverse factors in reverse order (`C07.revGammas_inv`), so that its virtual
distance is `(γ_1 ⋯ γ_{n−1}) · d` -/
theorem virtualDistance_reverse (legs gs : List K) (hlen : gs.length + 1 = legs.length)
    (hg : ∀ γ ∈ gs, γ ≠ 0) :
    virtualDistance 1 legs.reverse ((gs.map (·⁻¹)).reverse) = gs.prod * virtualDistance 1 legs gs := by
  induction gs generalizing legs with
  | nil =>
    obtain ⟨r, rfl⟩ : ∃ r, legs = [r] := List.length_eq_one_iff.1 hlen.symm
    rw [List.prod_nil, one_mul]; rfl
  | cons γ gs ih =>
    obtain _ | ⟨r₁, _ | ⟨r₂, rest⟩⟩ := legs
    · cases hlen
    · cases hlen
    have hlen' : gs.length + 1 = (r₂ :: rest).length := Nat.succ.inj hlen
    -- the reversed lists end in `r₁` and `γ⁻¹`: split these off (`virtualDistance_snoc`) and use `ih` on what is in front.
    -- The left side becomes `∏gs · vd (r₂ :: rest) gs + r₁ · (∏gs · γ)`
    rw [virtualDistance_cons_cons, List.reverse_cons (a := r₁), List.map_cons,
      List.reverse_cons (a := γ⁻¹), virtualDistance_snoc _ _ _ _ (by simpa using hlen'),
      ih (r₂ :: rest) hlen' (fun g hg' => hg g (List.mem_cons_of_mem _ hg')),
      List.prod_append, List.prod_reverse, ← List.prod_inv, List.prod_singleton, List.prod_cons,
      ← mul_inv, div_inv_eq_mul]
    -- the right side `γ · ∏gs · (r₁ + vd (r₂ :: rest) gs / γ)` multiplied out; `γ` cancels in the second term
    rw [mul_add, mul_comm γ, mul_assoc gs.prod γ (_ / γ), ← mul_div_assoc,
      mul_div_cancel_left₀ _ (hg γ List.mem_cons_self), add_comm, mul_comm r₁]

end vd

section gamalg
variable {K : Type} [Field K]

/-- with `ν' = 1/ν` the reverse factor is the inverse of the direct one; where a denominator vanishes both sides
are `0` -/
theorem revGamma_inv_aux (ν s c : K) :
    (ν⁻¹ * c * c) / (1 - ν⁻¹ * ν⁻¹ * s * s) = ((ν * ν - s * s) / (ν * c * c))⁻¹ := by
  by_cases hν : ν = 0
  · simp only [hν, inv_zero, zero_mul, zero_div, div_zero]
  have h2 := mul_ne_zero hν hν
  -- numerator and denominator of the inverted direct factor divided by `ν²`
  rw [inv_div, ← div_div_div_cancel_right₀ h2 (ν * c * c), sub_div, div_self h2, mul_assoc ν,
    mul_div_mul_left _ _ hν, mul_assoc ν⁻¹ c c, inv_mul_eq_div, mul_assoc (ν⁻¹ * ν⁻¹), ← mul_inv, inv_mul_eq_div]

/-- Snell turns the factor of the code into Schmerr's `v_in cos²θ_out / (v_out cos²θ_in)` -/
theorem gamma_snell_aux (vIn vOut s c so co : K) (hv : vOut ≠ 0)
    (snell : vIn * so = vOut * s) (pyth : co * co = 1 - so * so) :
    ((vIn / vOut) * (vIn / vOut) - s * s) / ((vIn / vOut) * c * c) =
      (vIn * co * co) / (vOut * c * c) := by
  have hs : s = vIn / vOut * so := by rw [div_mul_eq_mul_div, snell, mul_div_cancel_left₀ _ hv]
  have e : vIn / vOut * (vIn / vOut) - s * s = vIn / vOut * (vIn / vOut * (co * co)) := by
    rw [pyth, hs]; ring
  rw [e, mul_assoc _ c c, mul_assoc vIn, mul_assoc vOut, ← div_mul_div_comm vIn vOut]
  by_cases hν : vIn / vOut = 0
  · rw [hν, zero_mul, zero_mul, zero_div, zero_mul]
  · rw [mul_div_mul_left _ _ hν, mul_div_assoc]

end gamalg

section factor
variable {K : Type} [Field K] (t : RTrig K)

/-- the reverse routine is given the outgoing velocity first -/
theorem revGammaF_eq_inv (hone : t.one = 1) (vIn vOut θ : K) :
    revGammaF t vOut vIn θ = (gammaF t vIn vOut θ)⁻¹ := by
  simp only [revGammaF, gammaF, hone]
  rw [← inv_div vIn vOut]
  exact revGamma_inv_aux _ _ _

/-- under Snell's law (`φ` the refraction or reflection angle) the reverse routine computes, from the direct incidence
angle `θ`, the direct factor of the reversed ray: both are the inverse of Schmerr's ratio of the direct interface -/
theorem revGammaF_eq_gammaF_reversed (hone : t.one = 1)
    (hpyth : ∀ x, t.cos x * t.cos x = 1 - t.sin x * t.sin x) (vIn vOut θ φ : K) (hIn : vIn ≠ 0) (hOut : vOut ≠ 0)
    (hs : vIn * t.sin φ = vOut * t.sin θ) :
    revGammaF t vOut vIn θ = gammaF t vOut vIn φ := by
  simp only [revGammaF, gammaF, hone]
  rw [gamma_snell_aux vOut vIn _ _ _ _ hIn hs.symm (hpyth θ), ← inv_div vIn vOut, revGamma_inv_aux,
    gamma_snell_aux vIn vOut _ _ _ _ hOut hs (hpyth φ), inv_div]

end factor

end Arim.Weights
