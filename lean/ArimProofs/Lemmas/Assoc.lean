/-! The first entry of a list whose key is `k`, read through `val`.  `Frame.lookup` (model) and `Config.lookup`
(Lemmas/Config) are instances: `q` is whatever Boolean test of `key e = k` the definition writes.  Core only. -/
namespace Arim.Assoc
variable {ε κ ν : Type} {key : ε → κ} {val : ε → ν} {q : ε → Bool} {k : κ}

theorem eq_none_iff (hq : ∀ e, q e = true ↔ key e = k) (l : List ε) :
    (l.find? q).map val = none ↔ k ∉ l.map key := by
  simp only [Option.map_eq_none_iff, List.find?_eq_none, hq, List.mem_map, not_exists, not_and]

theorem mem_of_eq_some (hq : ∀ e, q e = true ↔ key e = k) {l : List ε} {v : ν}
    (h : (l.find? q).map val = some v) : ∃ e ∈ l, key e = k ∧ val e = v := by
  obtain ⟨e, he, rfl⟩ := Option.map_eq_some_iff.1 h
  exact ⟨e, List.mem_of_find?_eq_some he, (hq e).1 (List.find?_some he), rfl⟩

/-- with distinct keys every entry is found under its key -/
theorem of_mem (hq : ∀ e, q e = true ↔ key e = k) {l : List ε} (hnd : (l.map key).Nodup) {e : ε}
    (he : e ∈ l) (hk : key e = k) : (l.find? q).map val = some (val e) := by
  induction l with
  | nil => cases he
  | cons a l ih =>
    rw [List.map_cons, List.nodup_cons] at hnd
    rw [List.find?_cons]
    rcases List.mem_cons.1 he with rfl | he
    · rw [(hq e).2 hk]; rfl
    · have : q a = false :=
        Bool.eq_false_iff.2 fun h => hnd.1 (((hq a).1 h).trans hk.symm ▸ List.mem_map_of_mem he)
      rw [this]; exact ih hnd.2 he

end Arim.Assoc
