import ArimProofs.Tie.C06
import Mathlib.Analysis.SpecialFunctions.Trigonometric.Inverse
import Mathlib.Analysis.Real.Sqrt
/-! The carriers at which C06, C07 and C03 instantiate the path-term model: the real routines `rT`, the real routines of
the translated code `srcOps` (seen as `rT` through `Tie.C06.rtrig`), and a rational 3-4-5 "trigonometry" `tQ` for
examples. -/
namespace Arim.C06
open Arim.Weights Arim.Tie.C06

noncomputable def rT : RTrig ℝ :=
  { sin := Real.sin, cos := Real.cos, sqrt := Real.sqrt, exp := Real.exp, one := 1, zero := 0 }

@[simp] theorem rT_sin : rT.sin = Real.sin := rfl
@[simp] theorem rT_cos : rT.cos = Real.cos := rfl
@[simp] theorem rT_sqrt : rT.sqrt = Real.sqrt := rfl
@[simp] theorem rT_one : rT.one = 1 := rfl

theorem rT_pyth (x : ℝ) : rT.cos x * rT.cos x = 1 - rT.sin x * rT.sin x := by
  simpa only [rT_sin, rT_cos, pow_two] using Real.cos_sq' x

/-- a rational "trigonometry" (3-4-5 triangle): incidence `sin = 3/5`, refraction `sin = 4/5` for
`vIn = 3`, `vOut = 4` -/
def tQ : RTrig ℚ :=
  { sin := fun x => if x = 0 then 3 / 5 else 4 / 5, cos := fun x => if x = 0 then 4 / 5 else 3 / 5,
    sqrt := id, exp := id, one := 1, zero := 0 }

/-- the routines of the translated code at `K = ℝ`; the translated path terms (`beamspread_2d_for_path`,
`reverse_beamspread_2d_for_path`) call only `sin`, `cos`, `sqrt` and `ofNat` (`Tie.C06.rtrig` also reads `exp`).  The
other fields are placeholders never called there: `id` is not `numpy.sinc` (`C08.srcOps` has NumPy's), Mathlib's
`round` rounds ties up where Python's rounds them to even, `⌊x⌋` is not `int(x)` for negative `x`. -/
noncomputable def srcOps : Src.Ops ℝ :=
  { sin := Real.sin, cos := Real.cos, asin := Real.arcsin, sqrt := Real.sqrt, exp := Real.exp, sinc := id,
    pi := Real.pi, ofNat := fun n => (n : ℝ), ofInt := fun z => (z : ℝ),
    floor := fun x => ⌊x⌋, round := fun x => round x, trunc := fun x => ⌊x⌋ }

@[simp] theorem rtrig_srcOps : rtrig srcOps = rT := by
  simp only [rtrig, srcOps, rT, Nat.cast_one, Nat.cast_zero]

end Arim.C06
