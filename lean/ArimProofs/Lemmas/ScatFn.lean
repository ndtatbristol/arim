import ArimModel.ScatFn
import ArimProofs.Lemmas.FoldSum
import ArimProofs.Lemmas.ListFold
import Mathlib.Analysis.SpecialFunctions.Trigonometric.Basic
import Mathlib.Algebra.Ring.Periodic
import Mathlib.Analysis.SpecialFunctions.Pow.Real
import Mathlib.Data.Complex.Basic
import Mathlib.Tactic.FieldSimp
import Mathlib.Tactic.Ring
import Mathlib.Tactic.Positivity
/-! Helper lemmas for C09: `modalSum` as a `Finset` sum and what follows termwise, the behaviour of `f (n φ)`
(`f` `2π`-periodic, `n` natural) under exchange of the two angles and under `2π`-shifts, and the
wave-speed dependence of the crack-centre prefactors. -/
namespace Arim.ScatFnLemmas
open Arim.ScatFn

section modal
variable {C : Type} [Field C] (t : STrig C)

theorem modalSum_eq_sum (h0 : t.zero = 0) (trig : C → C) (phi : C) (coef : ℕ → C) (maxn : ℕ) :
    modalSum t trig phi coef maxn
      = ∑ n ∈ Finset.range (maxn + 1), trig (t.ofNat n * phi) * coef n := by
  rw [modalSum, foldl_range_add, h0, zero_add]

theorem modalSum_one (h0 : t.zero = 0) (hN0 : t.ofNat 0 = 0) (hN1 : t.ofNat 1 = 1) (trig : C → C)
    (φ : C) (coef : ℕ → C) :
    modalSum t trig φ coef 1 = trig 0 * coef 0 + trig φ * coef 1 := by
  rw [modalSum_eq_sum t h0, Finset.sum_range_succ, Finset.sum_range_one, hN0, hN1, zero_mul, one_mul]

theorem modalSum_congr {trig : C → C} {φ φ' : C} (coef : ℕ → C) (maxn : ℕ)
    (h : ∀ n, trig (t.ofNat n * φ) = trig (t.ofNat n * φ')) :
    modalSum t trig φ coef maxn = modalSum t trig φ' coef maxn :=
  foldl_congr_mem _ fun _ n _ => by rw [h]

theorem modalSum_neg (h0 : t.zero = 0) {trig : C → C} {φ φ' : C} (coef : ℕ → C) (maxn : ℕ)
    (h : ∀ n, trig (t.ofNat n * φ) = -trig (t.ofNat n * φ')) :
    modalSum t trig φ coef maxn = -modalSum t trig φ' coef maxn := by
  rw [modalSum_eq_sum t h0, modalSum_eq_sum t h0, ← Finset.sum_neg_distrib]
  exact Finset.sum_congr rfl fun n _ => by rw [h, neg_mul]

theorem modalSum_coef_div (h0 : t.zero = 0) (trig : C → C) (φ c : C) (u v : ℕ → C) (maxn : ℕ) :
    modalSum t trig φ (fun n => u n / c * v n) maxn
      = modalSum t trig φ (fun n => u n * v n) maxn / c := by
  rw [modalSum_eq_sum t h0, modalSum_eq_sum t h0, div_eq_mul_inv, Finset.sum_mul]
  exact Finset.sum_congr rfl fun n _ => by rw [div_eq_mul_inv, mul_right_comm (u n), ← mul_assoc]

end modal

section periodic
variable {f : ℂ → ℂ} (hf : Function.Periodic f (2 * (Real.pi : ℂ))) (n : ℕ)
include hf

/-- exchanging the two angles (`θ ↦ −θ` in `φ = θ + π`) negates the argument `n φ` of a
`2π`-periodic function, because `n` is natural: `n(π − θ) = −n(π + θ) + 2πn` -/
theorem periodic_nat_swap (a b : ℂ) :
    f ((n : ℂ) * (a - b + (Real.pi : ℂ))) = f (-((n : ℂ) * (b - a + (Real.pi : ℂ)))) := by
  have h : (n : ℂ) * (a - b + (Real.pi : ℂ))
      = -((n : ℂ) * (b - a + (Real.pi : ℂ))) + (n : ℂ) * (2 * (Real.pi : ℂ)) := by ring
  rw [h, hf.nat_mul n]

theorem periodic_nat_mul_add_int (k : ℤ) (φ : ℂ) :
    f ((n : ℂ) * (φ + 2 * (Real.pi : ℂ) * (k : ℂ))) = f ((n : ℂ) * φ) := by
  rw [mul_add, mul_comm (2 * (Real.pi : ℂ))]
  exact (hf.int_mul k).nat_mul n _

end periodic

theorem rpow_div_sqrt (x f v : ℝ) (hx : 0 ≤ x) (hv : 0 < v) :
    (x / v) ^ ((5 : ℝ) / 2) / Real.sqrt (v / f) = x ^ ((5 : ℝ) / 2) * Real.sqrt f / v ^ 3 := by
  have h3 : v ^ ((5 : ℝ) / 2) * Real.sqrt v = v ^ 3 := by
    rw [Real.sqrt_eq_rpow, ← Real.rpow_add hv, ← Real.rpow_natCast]; norm_num
  rw [Real.div_rpow hx hv.le, Real.sqrt_div hv.le, div_div_div_eq, h3]

/-- the prefactors `ξ₁^{5/2}/√λ_L`, `ξ₂^{5/2}/√λ_T` of the crack-centre kernel (`ξ = x/v`,
`λ = v/f`) go like `v⁻³`, hence `k_T ξ_L v_T² = k_L ξ_T v_L²` -/
theorem crack_prefactors (x f vL vT : ℝ) (hx : 0 ≤ x) (hL : 0 < vL) (hT : 0 < vT) :
    (x / vT) ^ ((5 : ℝ) / 2) / Real.sqrt (vT / f) * (x / vL) * vT ^ 2
      = (x / vL) ^ ((5 : ℝ) / 2) / Real.sqrt (vL / f) * (x / vT) * vL ^ 2 := by
  rw [rpow_div_sqrt x f vL hx hL, rpow_div_sqrt x f vT hx hT]
  generalize x ^ ((5 : ℝ) / 2) * Real.sqrt f = c
  field_simp

end Arim.ScatFnLemmas
