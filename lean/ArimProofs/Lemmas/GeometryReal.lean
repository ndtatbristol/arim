import ArimModel.Geometry
import Mathlib.Analysis.SpecialFunctions.Trigonometric.Inverse
/-! # Distances and angles over `ℝ` (used by C17 and C05)

`dist3 Real.sqrt` is symmetric, non-negative, and zero exactly between equal points (no triangle inequality is proved);
the polar angle `arccos (z / r)` inverts. -/
namespace Arim.C17
open Arim

theorem dist3_sqrt_eq (a b : P3 ℝ) :
    dist3 Real.sqrt a b = Real.sqrt ((a.x - b.x) ^ 2 + (a.y - b.y) ^ 2 + (a.z - b.z) ^ 2) := by
  simp only [dist3, sq]

theorem dist3_comm (a b : P3 ℝ) : dist3 Real.sqrt a b = dist3 Real.sqrt b a := by
  simp only [dist3_sqrt_eq, ← neg_sub b.x, ← neg_sub b.y, ← neg_sub b.z, neg_sq]

theorem dist3_nonneg (a b : P3 ℝ) : 0 ≤ dist3 Real.sqrt a b := Real.sqrt_nonneg _

theorem dist3_eq_zero_iff (a b : P3 ℝ) :
    dist3 Real.sqrt a b = 0 ↔ a.x = b.x ∧ a.y = b.y ∧ a.z = b.z := by
  have hx := sq_nonneg (a.x - b.x); have hy := sq_nonneg (a.y - b.y); have hz := sq_nonneg (a.z - b.z)
  rw [dist3_sqrt_eq, Real.sqrt_eq_zero (add_nonneg (add_nonneg hx hy) hz),
    add_eq_zero_iff_of_nonneg (add_nonneg hx hy) hz, add_eq_zero_iff_of_nonneg hx hy, and_assoc]
  simp only [sq_eq_zero_iff, sub_eq_zero]

theorem polar_inverse {r : ℝ} (ρ z : ℝ) (hr : 0 < r) (hρ : 0 ≤ ρ) (h : r ^ 2 = ρ ^ 2 + z ^ 2) :
    r * Real.sin (Real.arccos (z / r)) = ρ ∧ r * Real.cos (Real.arccos (z / r)) = z := by
  -- `z² ≤ r²`, so `−r ≤ z` (`h1`) and `z ≤ r` (`h2`): `z / r` lies where `cos (arccos ·)` is the identity
  obtain ⟨h1, h2⟩ := abs_le_of_sq_le_sq' (a := z) (b := r)
    (by rw [h]; exact le_add_of_nonneg_left (sq_nonneg ρ)) hr.le
  constructor
  · have e : 1 - (z / r) ^ 2 = (ρ / r) ^ 2 := by
      rw [div_pow, div_pow, one_sub_div (pow_ne_zero 2 hr.ne'), h, add_sub_cancel_right]
    rw [Real.sin_arccos, e, Real.sqrt_sq (div_nonneg hρ hr.le), mul_div_cancel₀ _ hr.ne']
  · rw [Real.cos_arccos ((le_div_iff₀ hr).2 (by rwa [neg_one_mul])) ((div_le_one hr).2 h2),
      mul_div_cancel₀ _ hr.ne']

end Arim.C17
