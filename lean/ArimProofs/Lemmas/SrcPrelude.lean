import ArimModel.Src
/-! The Python built-ins of the translated code (`ArimModel/Src.lean`: `range`, `l[i]`) as the list operations they are.
Core only. -/
namespace Arim.Src

theorem pyRange_eq_map (a b : Nat) : pyRange a b = (List.range (b - a)).map (a + ·) :=
  List.range'_eq_map_range

theorem pyRangeI_eq_map (a : Int) (n : Nat) :
    pyRangeI a (a + n) = (List.range n).map fun k : Nat => a + (k : Int) := by
  rw [pyRangeI, Int.add_comm a, Int.add_sub_cancel, Int.toNat_natCast]

/-- `[l[i] for i in range(k)]` -/
theorem map_pyGet_range {α : Type} (l : List α) (d : α) {k : Nat} (hk : k ≤ l.length) :
    (List.range k).map (pyGet l · d) = l.take k := by
  refine List.ext_getElem (by rw [List.length_map, List.length_range, List.length_take, Nat.min_eq_left hk]) ?_
  intro i h1 h2
  rw [List.length_map, List.length_range] at h1
  rw [List.getElem_map, List.getElem_range, List.getElem_take, pyGet, List.getD_eq_getElem?_getD,
    List.getElem?_eq_getElem (Nat.lt_of_lt_of_le h1 hk), Option.getD_some]

/-- `for i in range(k): acc = f(acc, l[i])` -/
theorem foldl_pyGet_range {α β : Type} (f : β → α → β) (l : List α) (d : α) {k : Nat} (hk : k ≤ l.length)
    (init : β) : (List.range k).foldl (fun b i => f b (pyGet l i d)) init = (l.take k).foldl f init := by
  rw [← map_pyGet_range l d hk, List.foldl_map]

end Arim.Src
