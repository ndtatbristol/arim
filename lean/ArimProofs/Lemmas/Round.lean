import Mathlib.Algebra.Order.Floor.Ring
import Mathlib.Algebra.Order.Field.Basic
import Mathlib.Algebra.Order.Ring.Abs
/-! Round half to even (CPython / numba `round`) on a linearly ordered field with floor.

`Arim.Tfm.roundHalfEven` and `Arim.C17.roundHalfEven` have the same body: `rfl` identifies them with the
function of this file, and every fact about rounding is proved here. -/

namespace Arim.Das

variable {K : Type} [Field K] [LinearOrder K] [FloorRing K]

/-- round to nearest integer, ties to the even neighbour (CPython / numba `round`) -/
def roundHalfEven (x : K) : Int :=
  let f := ⌊x⌋
  let d := x - (f : K)
  if d < 1 / 2 then f else if 1 / 2 < d then f + 1 else if f % 2 = 0 then f else f + 1

theorem roundHalfEven_cases (x : K) :
    (roundHalfEven x = ⌊x⌋ ∧ (Int.fract x < 1 / 2 ∨ (Int.fract x = 1 / 2 ∧ ⌊x⌋ % 2 = 0))) ∨
    (roundHalfEven x = ⌊x⌋ + 1 ∧ (1 / 2 < Int.fract x ∨ (Int.fract x = 1 / 2 ∧ ⌊x⌋ % 2 = 1))) := by
  have key : roundHalfEven x = if Int.fract x < 1 / 2 then ⌊x⌋ else if 1 / 2 < Int.fract x then ⌊x⌋ + 1
      else if ⌊x⌋ % 2 = 0 then ⌊x⌋ else ⌊x⌋ + 1 := rfl
  rw [key]
  rcases lt_trichotomy (Int.fract x) (1 / 2) with h | h | h
  · rw [if_pos h]; exact .inl ⟨rfl, .inl h⟩
  · rw [if_neg h.not_lt, if_neg h.not_gt]
    by_cases hp : ⌊x⌋ % 2 = 0
    · rw [if_pos hp]; exact .inl ⟨rfl, .inr ⟨h, hp⟩⟩
    · rw [if_neg hp]; exact .inr ⟨rfl, .inr ⟨h, by omega⟩⟩
  · rw [if_neg (lt_asymm h), if_pos h]; exact .inr ⟨rfl, .inl h⟩

theorem floor_le_roundHalfEven (x : K) : ⌊x⌋ ≤ roundHalfEven x := by
  rcases roundHalfEven_cases x with ⟨h, _⟩ | ⟨h, _⟩ <;> omega

variable [IsStrictOrderedRing K]

/-- Everything below uses the definition only through this. -/
theorem roundHalfEven_dist (x : K) :
    |x - (roundHalfEven x : K)| < 1 / 2 ∨ (|x - (roundHalfEven x : K)| = 1 / 2 ∧ roundHalfEven x % 2 = 0) := by
  have h0 : |x - (⌊x⌋ : K)| = Int.fract x := abs_of_nonneg (Int.fract_nonneg x)
  have h1 : |x - ((⌊x⌋ + 1 : Int) : K)| = 1 - Int.fract x := by
    rw [Int.cast_add, Int.cast_one, ← sub_sub, Int.self_sub_floor, abs_sub_comm]
    exact abs_of_pos (sub_pos.2 (Int.fract_lt_one x))
  rcases roundHalfEven_cases x with ⟨hr, h⟩ | ⟨hr, h⟩
  · rw [hr, h0]
    exact h
  · rw [hr, h1]
    refine h.imp (fun h => sub_lt_comm.1 ((sub_half 1).trans_lt h)) fun h => ⟨?_, by omega⟩
    rw [h.1]; exact sub_half 1

theorem roundHalfEven_abs_le (x : K) : |x - (roundHalfEven x : K)| ≤ 1 / 2 :=
  (roundHalfEven_dist x).elim le_of_lt fun h => h.1.le

theorem roundHalfEven_tie_even (x : K) (h : |x - (roundHalfEven x : K)| = 1 / 2) :
    roundHalfEven x % 2 = 0 :=
  (roundHalfEven_dist x).elim (fun h' => absurd h h'.ne) And.right

/-- Two different integers within one half of `x` are neighbours, both exactly one half away, so not both even. -/
theorem int_eq_of_abs_sub_le_half (x : K) (z z' : Int) (h : |x - (z : K)| ≤ 1 / 2)
    (h' : |x - (z' : K)| ≤ 1 / 2) (ht : |x - (z : K)| = 1 / 2 → z % 2 = 0)
    (ht' : |x - (z' : K)| = 1 / 2 → z' % 2 = 0) : z = z' := by
  by_contra hne
  have hD : ((|z - z'| : Int) : K) ≤ |x - (z : K)| + |x - (z' : K)| := by
    rw [Int.cast_abs, Int.cast_sub, abs_sub_comm x]; exact abs_sub_le _ _ _
  have h1 : (1 : K) ≤ |x - (z : K)| + |x - (z' : K)| :=
    le_trans (by rw [← Int.cast_one]; exact Int.cast_le.2 (Int.one_le_abs (sub_ne_zero.2 hne))) hD
  have half {a b : K} (ha : a ≤ 1 / 2) (hb : b ≤ 1 / 2) (hab : 1 ≤ a + b) : a = 1 / 2 :=
    le_antisymm ha ((sub_half 1).symm.trans_le ((sub_le_sub_left hb 1).trans (sub_le_iff_le_add.2 hab)))
  have e := half h h' h1
  have e' := half h' h ((add_comm _ _).trans_ge h1)
  rw [e, e', add_halves] at hD
  rw [← Int.cast_one, Int.cast_le] at hD
  have := abs_le.1 hD
  have := ht e; have := ht' e'
  omega

theorem roundHalfEven_eq_iff (x : K) (z : Int) :
    roundHalfEven x = z ↔ |x - (z : K)| ≤ 1 / 2 ∧ (|x - (z : K)| = 1 / 2 → z % 2 = 0) :=
  ⟨fun h => h ▸ ⟨roundHalfEven_abs_le x, roundHalfEven_tie_even x⟩, fun ⟨h, ht⟩ =>
    int_eq_of_abs_sub_le_half x _ z (roundHalfEven_abs_le x) h (roundHalfEven_tie_even x) ht⟩

theorem roundHalfEven_eq_of_abs_lt (x : K) (z : Int) (h : |x - (z : K)| < 1 / 2) :
    roundHalfEven x = z :=
  (roundHalfEven_eq_iff x z).2 ⟨h.le, fun e => absurd e h.ne⟩

theorem roundHalfEven_nearest (x : K) (z : Int) :
    |x - (roundHalfEven x : K)| ≤ |x - (z : K)| := by
  rcases lt_or_ge |x - (z : K)| (1 / 2) with hz | hz
  · rw [roundHalfEven_eq_of_abs_lt x z hz]
  · exact (roundHalfEven_abs_le x).trans hz

theorem roundHalfEven_sub_half_le (x : K) : (roundHalfEven x : K) - 1 / 2 ≤ x :=
  sub_le_iff_le_add.2 (neg_le_sub_iff_le_add.1 (abs_le.1 (roundHalfEven_abs_le x)).1)

theorem le_roundHalfEven_add_half (x : K) : x ≤ (roundHalfEven x : K) + 1 / 2 :=
  sub_le_iff_le_add'.1 (abs_le.1 (roundHalfEven_abs_le x)).2

theorem roundHalfEven_mono {x y : K} (hxy : x ≤ y) : roundHalfEven x ≤ roundHalfEven y := by
  by_contra hlt
  have hc : (roundHalfEven y : K) + 1 ≤ roundHalfEven x := by exact_mod_cast Int.not_le.1 hlt
  have hyx : y ≤ x :=
    calc y ≤ (roundHalfEven y : K) + 1 / 2 := le_roundHalfEven_add_half y
      _ = (roundHalfEven y : K) + 1 - 1 / 2 := by rw [add_sub_assoc, sub_half]
      _ ≤ (roundHalfEven x : K) - 1 / 2 := sub_le_sub_right hc _
      _ ≤ x := roundHalfEven_sub_half_le x
  rw [le_antisymm hxy hyx] at hlt
  exact hlt le_rfl

end Arim.Das
