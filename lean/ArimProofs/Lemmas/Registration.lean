import ArimModel.Registration
import Mathlib.Algebra.BigOperators.Group.List.Basic
import Mathlib.Algebra.Order.BigOperators.Group.List
import Mathlib.Algebra.Order.Field.Basic
import Mathlib.Data.List.Perm.Basic
import Mathlib.Tactic.Ring
import Mathlib.Tactic.LinearCombination
/-! Lemmas for the fit and the registration of C19: `lsq` is the unique solution of the normal
    equations (Cramer's rule on the five sums), the determinant `n Σx² − (Σx)²` grows by `Σ (a − x)²`
    with each new abscissa `a`, `register` sees the frame only through the pulse-echo selection. -/
namespace Arim.Reg.Lemmas
open Arim.Reg

theorem sum_eq {K : Type} [AddMonoid K] (l : List K) : sum (0 : K) l = l.sum :=
  List.sum_eq_foldl.symm

section lsq
variable {K : Type} [Field K]

/-- Cramer's rule for the 2×2 normal equations, with the five sums as variables: the closed
form computed by `lsq` is their unique solution -/
theorem cramer_iff {n sx sd sxx sxd a b : K} (hn : n ≠ 0) (hD : n * sxx - sx * sx ≠ 0) :
    ((sd - (n * sxd - sx * sd) / (n * sxx - sx * sx) * sx) / n,
        (n * sxd - sx * sd) / (n * sxx - sx * sx)) = (a, b) ↔
      n * a + b * sx = sd ∧ a * sx + b * sxx = sxd := by
  rw [Prod.mk.injEq]
  constructor
  · rintro ⟨rfl, rfl⟩
    -- name the two quotients `p`, `a` and keep of them only `p · D = n sxd − sx sd` (`hp`) and `a · n = sd − p sx` (`ha`):
    -- the first equation is `ha`, the second follows from both after multiplying by `n`
    have hp := div_mul_cancel₀ (n * sxd - sx * sd) hD
    generalize (n * sxd - sx * sd) / (n * sxx - sx * sx) = p at hp ⊢
    have ha := div_mul_cancel₀ (sd - p * sx) hn
    generalize (sd - p * sx) / n = a at ha ⊢
    exact ⟨by rw [mul_comm, ha, sub_add_cancel],
      mul_left_cancel₀ hn (by linear_combination sx * ha + hp)⟩
  · rintro ⟨rfl, rfl⟩
    have hb : (n * (a * sx + b * sxx) - sx * (n * a + b * sx)) / (n * sxx - sx * sx) = b := by
      rw [div_eq_iff hD]; ring
    rw [hb, add_sub_cancel_right, mul_div_cancel_left₀ _ hn]
    exact ⟨rfl, rfl⟩

/-- `lsq` returns the solution of the normal equations of `min Σ (d − a − b x)²`, and nothing
else solves them, whenever `n ≠ 0` and the determinant `n Σx² − (Σx)²` is non-zero -/
theorem lsq_eq_iff (xs ds : List K) (a b : K) (hn : (xs.length : K) ≠ 0)
    (hD : (xs.length : K) * (xs.map (fun x => x * x)).sum - xs.sum * xs.sum ≠ 0) :
    lsq (0 : K) (fun n => (n : K)) xs ds = (a, b) ↔
      (xs.length : K) * a + b * xs.sum = ds.sum ∧
      a * xs.sum + b * (xs.map (fun x => x * x)).sum =
        ((xs.zip ds).map (fun p => p.1 * p.2)).sum := by
  simp only [lsq, sum_eq]
  exact cramer_iff hn hD

theorem lsq_perm {α : Type} {l l' : List α} (h : l.Perm l') (f g : α → K) :
    lsq (0 : K) (fun n => (n : K)) (l.map f) (l.map g) =
      lsq (0 : K) (fun n => (n : K)) (l'.map f) (l'.map g) := by
  simp only [lsq, sum_eq, List.length_map, List.zip_map', List.map_map, h.length_eq,
    (h.map _).sum_eq]

theorem sum_map_affine (xs : List K) (p0 p1 : K) :
    (xs.map (fun x => p0 + p1 * x)).sum = (xs.length : K) * p0 + p1 * xs.sum := by
  induction xs with
  | nil => simp
  | cons x xs ih => simp only [List.map_cons, List.sum_cons, List.length_cons, Nat.cast_succ, ih]; ring

theorem sum_zip_map_affine (xs : List K) (p0 p1 : K) :
    ((xs.zip (xs.map (fun x => p0 + p1 * x))).map (fun p => p.1 * p.2)).sum =
      p0 * xs.sum + p1 * (xs.map (fun x => x * x)).sum := by
  induction xs with
  | nil => simp
  | cons x xs ih => simp only [List.map_cons, List.zip_cons_cons, List.sum_cons, ih]; ring

end lsq

section denom
variable {K : Type} [Field K]

/-- the determinant `n Σx² − (Σx)²` of the normal equations as a function of the list of abscissae, so that its growth
with each abscissa (`lsqDen_cons`), and from it its sign, can be stated by induction on the list -/
def lsqDen (xs : List K) : K :=
  (xs.length : K) * (xs.map (fun x => x * x)).sum - xs.sum * xs.sum

theorem sum_sq_sub (a : K) (xs : List K) :
    (xs.map (fun x => (a - x) * (a - x))).sum =
      (xs.length : K) * (a * a) - 2 * a * xs.sum + (xs.map (fun x => x * x)).sum := by
  induction xs with
  | nil => simp
  | cons x xs ih => simp only [List.map_cons, List.sum_cons, List.length_cons, Nat.cast_succ, ih]; ring

theorem lsqDen_cons (a : K) (xs : List K) :
    lsqDen (a :: xs) = lsqDen xs + (xs.map (fun x => (a - x) * (a - x))).sum := by
  rw [sum_sq_sub]
  simp only [lsqDen, List.map_cons, List.sum_cons, List.length_cons, Nat.cast_succ]
  ring

variable [LinearOrder K] [IsStrictOrderedRing K]

theorem sq_sub_nonneg_of_mem (a : K) (xs : List K) :
    ∀ y ∈ xs.map (fun x => (a - x) * (a - x)), 0 ≤ y := by
  intro y hy
  obtain ⟨x, -, rfl⟩ := List.mem_map.1 hy
  exact mul_self_nonneg _

theorem lsqDen_nonneg (xs : List K) : 0 ≤ lsqDen xs := by
  induction xs with
  | nil => simp [lsqDen]
  | cons a xs ih =>
    rw [lsqDen_cons]; exact add_nonneg ih (List.sum_nonneg (sq_sub_nonneg_of_mem a xs))

end denom

theorem two_le_length_of_ne {α : Type} {l : List α} {a b : α} (ha : a ∈ l) (hb : b ∈ l)
    (hab : a ≠ b) : 2 ≤ l.length := by
  match l, ha, hb with
  | [], ha, _ => simp at ha
  | [c], ha, hb =>
    simp only [List.mem_singleton] at ha hb
    exact absurd (ha.trans hb.symm) hab
  | _ :: _ :: _, _, _ => simp

/-- two lists have the same selection when, position by position, the test gives the same verdict and the entries
that pass it are equal; entries that fail it may differ (for `C19.pulseEcho_garbage_free`) -/
theorem filter_eq_of_forall₂ {α : Type} {p : α → Bool} {l l' : List α}
    (h : List.Forall₂ (fun a b => p a = p b ∧ (p a = true → a = b)) l l') :
    l.filter p = l'.filter p := by
  induction h with
  | nil => rfl
  | cons hab _ ih =>
    rw [List.filter_cons, List.filter_cons, ← hab.1, ih]
    split
    · rw [hab.2 ‹_›]
    · rfl

section reg
variable {K : Type} [Field K]

theorem register_of_lsq {cosOfSin : K → K} {elemX : Nat → K} {numel : Nat}
    {dead : Nat → Bool} {obs : List (Obs K)} (h : 2 ≤ (pulseEcho dead obs).length) {p0 p1 : K}
    (hl : lsq (0 : K) (fun n => (n : K)) ((pulseEcho dead obs).map (fun o => elemX o.tx))
            ((pulseEcho dead obs).map (·.dist)) = (p0, p1)) :
    register (0 : K) (fun n => (n : K)) cosOfSin elemX numel dead obs =
      some (-p0, p1, (List.range numel).map
        (fun e => (elemX e * cosOfSin p1, -(elemX e * p1) + -p0))) := by
  unfold register
  simp only [Nat.not_lt.2 h, if_false, hl]

theorem register_of_short {cosOfSin : K → K} {elemX : Nat → K} {numel : Nat}
    {dead : Nat → Bool} {obs : List (Obs K)} (h : (pulseEcho dead obs).length < 2) :
    register (0 : K) (fun n => (n : K)) cosOfSin elemX numel dead obs = none := by
  unfold register
  simp only [h, if_true]

/-- `register` sees the frame only through its pulse-echo selection, up to order -/
theorem register_congr_perm (cosOfSin : K → K) (elemX : Nat → K) (numel : Nat)
    {dead : Nat → Bool} {obs obs' : List (Obs K)}
    (hp : (pulseEcho dead obs).Perm (pulseEcho dead obs')) :
    register (0 : K) (fun n => (n : K)) cosOfSin elemX numel dead obs =
      register (0 : K) (fun n => (n : K)) cosOfSin elemX numel dead obs' := by
  unfold register
  simp only [hp.length_eq, lsq_perm hp (fun o => elemX o.tx) (·.dist)]

end reg

end Arim.Reg.Lemmas
