/-! The shapes that translated Python loops have, each said once: `acc.append(f(x))` is a `map`; a branch that only
chooses the value passed on is a read of an `Option` with a default; a loop body that only reads the elements of its
list may be replaced elementwise; a loop over `range(n)` keeps an invariant.  Also `mapM` into `Option` as a `map`
equation.  Core only, so that tie modules that need no Mathlib stay without it. -/
namespace Arim

theorem foldl_snoc {α β : Type} (f : α → β) (l : List α) (init : List β) :
    l.foldl (fun acc x => acc ++ [f x]) init = init ++ l.map f := by
  induction l generalizing init <;> simp [*]

/-- `out = []; for x in l: out.append(f(x))` -/
theorem foldl_snoc_nil {α β : Type} (f : α → β) (l : List α) :
    l.foldl (fun acc x => acc ++ [f x]) [] = l.map f :=
  (foldl_snoc f l []).trans (List.nil_append _)

theorem foldl_congr_mem {α β : Type} {f g : β → α → β} {l : List α} (init : β)
    (h : ∀ b, ∀ a ∈ l, f b a = g b a) : l.foldl f init = l.foldl g init := by
  induction l generalizing init with
  | nil => rfl
  | cons a l ih =>
    rw [List.foldl_cons, List.foldl_cons, h init a List.mem_cons_self]
    exact ih _ fun b a' ha' => h b a' (List.mem_cons_of_mem _ ha')

theorem foldl_range_inv {σ : Type} (step : σ → Nat → σ) (init : σ) (P : Nat → σ → Prop) (h0 : P 0 init)
    (hs : ∀ k s, P k s → P (k + 1) (step s k)) (n : Nat) : P n ((List.range n).foldl step init) := by
  induction n with
  | zero => exact h0
  | succ m ih => rw [List.range_succ, List.foldl_append]; exact hs m _ ih

/-- a list indexed by a range, reversed: position `j` from the far end -/
theorem reverse_map_range' {α : Type} (f : Nat → α) (s n : Nat) :
    ((List.range' s n).map f).reverse = (List.range n).map fun j => f (s + n - 1 - j) := by
  rw [← List.map_reverse, List.reverse_range', List.map_map]; rfl

/-- `if c: use(fill) else: use(x)` uses the guarded value `x`, read with default `fill` -/
theorem ite_getD {β γ : Type} {c : Prop} [Decidable c] (use : β → γ) (fill x : β) :
    (if c then use fill else use x) = use ((if c then none else some x).getD fill) := by
  split <;> rfl

theorem ite_map_getD {α β γ : Type} {c : Prop} [Decidable c] (use : β → γ) (g : α → β) (fill : β) (x : α) :
    (if c then use fill else use (g x)) = use (((if c then none else some x).map g).getD fill) := by
  split <;> rfl

/-- `mapM` into `Option` succeeds with `r` exactly when `f` maps `l` onto `r` entry by entry -/
theorem mapM_eq_some_iff {α β : Type} (f : α → Option β) (l : List α) (r : List β) :
    l.mapM f = some r ↔ l.map f = r.map some := by
  induction l generalizing r with
  | nil => cases r <;> simp
  | cons a as ih =>
    cases r with
    | nil => simp [List.mapM_cons, Option.bind_eq_some_iff]
    | cons b bs => simp [List.mapM_cons, Option.bind_eq_some_iff, ih]

end Arim
