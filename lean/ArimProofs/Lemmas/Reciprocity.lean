import ArimModel.Interface
import ArimModel.Weights
import ArimProofs.Lemmas.Weights
import ArimProofs.C04
import ArimProofs.C06
import ArimProofs.C07
import Mathlib.Algebra.Order.BigOperators.GroupWithZero.List
/-! Lemmas for C03 (reciprocity of the immersion model): per-interface ratio of the direct and
reverse coefficients in displacement units, the virtual distance of the reverse routine against the direct one
(`rev_virtualDistance`; the beamspread ratio itself is `C03.beamspread_ratio`), and the telescoping of the
per-interface ratios along an immersion path. -/
namespace Arim.Recip
open Arim.Iface Arim.Weights Arim.C04

noncomputable section core
open Complex

variable (asin : ℂ → ℂ) (m : Media ℂ) (aF aL aT : ℂ)

/-- the Stokes relations in displacement units, multiplicative form. Front wall, L wave in the
solid: `t_dir · ρ_s c_L cos α_L = t_rev · ρ_f c_f cos α_F` (`t_dir` = fluid→solid into L,
`t_rev` = solid→fluid from L) -/
theorem trans_ratio_L (hρf : m.rhoF ≠ 0) (hρs : m.rhoS ≠ 0) (hcf : m.cF ≠ 0) (hcl : m.cL ≠ 0)
    (hcos : cos aF ≠ 0) :
    ((fluidSolid (cTrig asin) m aF aL aT).2.1 * (m.rhoF * m.cF / (m.rhoS * m.cL)))
        * (m.rhoS * m.cL * cos aL)
      = ((solidLFluid (cTrig asin) m aF aL aT).2.2 * (m.rhoS * m.cL / (m.rhoF * m.cF)))
        * (m.rhoF * m.cF * cos aF) := by
  rw [stokes_L]
  field_simp

/-- front wall, T wave in the solid: `t_dir · ρ_s c_T cos α_T = − t_rev · ρ_f c_f cos α_F` -/
theorem trans_ratio_T (hρf : m.rhoF ≠ 0) (hρs : m.rhoS ≠ 0) (hcf : m.cF ≠ 0) (hcl : m.cL ≠ 0)
    (hct : m.cT ≠ 0) (hcos : cos aF ≠ 0) (hsnell : m.cL * sin aT = m.cT * sin aL) :
    ((fluidSolid (cTrig asin) m aF aL aT).2.2 * (m.rhoF * m.cF / (m.rhoS * m.cT)))
        * (m.rhoS * m.cT * cos aT)
      = -(((solidTFluid (cTrig asin) m aF aL aT).2.2 * (m.rhoS * m.cT / (m.rhoF * m.cF)))
        * (m.rhoF * m.cF * cos aF)) := by
  rw [stokes_T asin m aF aL aT hcl hct hsnell]
  field_simp

/-- mode-converting reflection L → T against T → L:
`r_LT · ρ_s c_T cos α_T = − r_TL · ρ_s c_L cos α_L` (displacement units) -/
theorem refl_ratio_LT (hcl : m.cL ≠ 0) (hct : m.cT ≠ 0)
    (hsnell : m.cL * sin aT = m.cT * sin aL) :
    ((solidLFluid (cTrig asin) m aF aL aT).2.1 * (m.cL / m.cT)) * (m.rhoS * m.cT * cos aT)
      = -(((solidTFluid (cTrig asin) m aF aL aT).1 * (m.cT / m.cL)) * (m.rhoS * m.cL * cos aL)) := by
  -- `ρ_s` times `stokes_refl`; the two `mul_inv_cancel₀` terms cancel `c_T` in `c_L / c_T · c_T` and `c_L` in `c_T / c_L · c_L`
  linear_combination m.rhoS * stokes_refl asin m aF aL aT hcl hsnell
    + (m.rhoS * m.cL * cos aT * (solidLFluid (cTrig asin) m aF aL aT).2.1) * mul_inv_cancel₀ hct
    + (m.rhoS * m.cT * cos aL * (solidTFluid (cTrig asin) m aF aL aT).1) * mul_inv_cancel₀ hcl

/-- refracting twice is refracting once (the arcsine is a right inverse of the sine) -/
theorem snell_snell (hsin : ∀ x, sin (asin x) = x) (a c0 c1 c2 : ℂ) (h1 : c1 ≠ 0) :
    snell (cTrig asin) (snell (cTrig asin) a c0 c1) c1 c2 = snell (cTrig asin) a c0 c2 := by
  simp only [snell_cTrig, hsin]
  rw [← mul_assoc, ← mul_div_assoc, div_mul_cancel₀ _ h1]

theorem snell_self (a c : ℂ) (hc : c ≠ 0) (hasin : asin (sin a) = a) :
    snell (cTrig asin) a c c = a := by
  rw [snell_cTrig, div_self hc, one_mul, hasin]

end core

/-- label of a leg of an immersion path: `none` = in the fluid, `some a` = in the solid with
mode `a` -/
abbrev Leg := Option Mode

section legs
variable {K : Type}

/-- wave speed on a leg, so that the front wall and the reflections are one statement in `coefVal_ratio` -/
def legVel (m : Media K) : Leg → K
  | none => m.cF
  | some a => velS m a

/-- density of the medium of a leg (with `legVel`: the impedance `ρ c` of `coefVal_ratio`) -/
def legRho (m : Media K) : Leg → K
  | none => m.rhoF
  | some _ => m.rhoS

/-- polarisation sign of a leg: `−1` for a T wave, `+1` otherwise -/
def legSign [One K] [Neg K] : Leg → K
  | some .T => -1
  | _ => 1

/-- the interior interface met by a ray coming along leg `ℓ` and leaving into the solid with
mode `b`, incidence angle `θ`, as `transmission_reflection_for_path` sees it: the front wall
(transmission fluid→solid, incident mode `L`) when `ℓ` is in the fluid, a reflection against a
solid|fluid wall when `ℓ` is in the solid -/
def specOf (m : Media K) (ℓ : Leg) (b : Mode) (θ : K) : IfaceSpec K :=
  match ℓ with
  | none => ⟨true, .fluidSolid, .L, b, θ, m.cF, velS m b⟩
  | some a => ⟨false, .solidFluid, a, b, θ, velS m a, velS m b⟩

end legs

/-- every interior interface of an immersion-type path is a combination the helpers accept, in
the direct and in the reverse product, whatever the scalars -/
theorem coef_specOf {K : Type} [CommMonoid K] [Add K] [Sub K] [Div K] [Neg K]
    (t : CTrig K) (m : Media K) (d : Bool) (ℓ : Leg) (b : Mode) (θ : K) :
    coef t m d (specOf m ℓ b θ) = .ok (coefVal t m d (specOf m ℓ b θ)) ∧
    coef t m d (revSpec t (specOf m ℓ b θ)) = .ok (coefVal t m d (revSpec t (specOf m ℓ b θ))) := by
  rcases ℓ with _ | _ | _ <;> cases b <;> exact ⟨rfl, rfl⟩

noncomputable section ratio
open Complex

variable (asin : ℂ → ℂ) (m : Media ℂ)

theorem coefVal_front (b : Mode) (θ : ℂ) :
    coefVal (cTrig asin) m true (specOf m none b θ) =
      pickTrans (fluidSolid (cTrig asin) m θ (snell (cTrig asin) θ m.cF m.cL)
            (snell (cTrig asin) θ m.cF m.cT)) b * ((m.rhoF * m.cF) / (m.rhoS * velS m b)) := by
  simp only [coefVal, coef, specOf, if_true, transmission_fluid_solid, withUnits_true]

theorem coefVal_front_rev (b : Mode) (θ : ℂ) :
    coefVal (cTrig asin) m true (revSpec (cTrig asin) (specOf m none b θ)) =
      (solidFluidAt (cTrig asin) m b (snell (cTrig asin) θ m.cF (velS m b))).2.2
        * ((m.rhoS * velS m b) / (m.rhoF * m.cF)) := by
  simp only [coefVal, coef, specOf, revSpec, Kind.rev, if_true, transmission_solid_fluid,
    withUnits_true]

theorem coefVal_refl (a b : Mode) (θ : ℂ) :
    coefVal (cTrig asin) m true (specOf m (some a) b θ) =
      pickRefl (solidFluidAt (cTrig asin) m a θ) b * (velS m a / velS m b) := by
  simp only [coefVal, coef, specOf, Bool.false_eq_true, if_false, reflection_solid_fluid,
    withUnits_true]

theorem coefVal_refl_rev (a b : Mode) (θ : ℂ) :
    coefVal (cTrig asin) m true (revSpec (cTrig asin) (specOf m (some a) b θ)) =
      pickRefl (solidFluidAt (cTrig asin) m b (snell (cTrig asin) θ (velS m a) (velS m b))) a
        * (velS m b / velS m a) := by
  simp only [coefVal, coef, specOf, revSpec, Bool.false_eq_true, if_false, reflection_solid_fluid,
    withUnits_true]

/-- Per-interface coefficient ratio, displacement units. For every interior interface of an
immersion path (front-wall transmission `L → b`, or reflection `a → b` against a solid|fluid
wall), with `θ` the incidence angle and `θ' = snell θ` the exit angle which the reverse routine
uses as its incidence angle:

`coef(direct) · ρ_out c_out cos θ' = σ_in σ_out · coef(reverse) · ρ_in c_in cos θ`

with `σ = −1` for a T leg and `+1` otherwise. -/
theorem coefVal_ratio (hsin : ∀ x, sin (asin x) = x)
    (hρf : m.rhoF ≠ 0) (hρs : m.rhoS ≠ 0) (hcf : m.cF ≠ 0) (hcl : m.cL ≠ 0) (hct : m.cT ≠ 0)
    (ℓ : Leg) (b : Mode) (θ : ℂ) (hasin : asin (sin θ) = θ) (hcos : cos θ ≠ 0) :
    coefVal (cTrig asin) m true (specOf m ℓ b θ)
        * (legRho m (some b) * legVel m (some b)
            * cos (snell (cTrig asin) θ (legVel m ℓ) (legVel m (some b))))
      = legSign ℓ * legSign (some b)
        * (coefVal (cTrig asin) m true (revSpec (cTrig asin) (specOf m ℓ b θ))
            * (legRho m ℓ * legVel m ℓ * cos θ)) := by
  rcases ℓ with _ | a
  · -- front wall: all angles are Snell images of `θ` from the fluid
    rw [coefVal_front, coefVal_front_rev]
    have hLT := snell_pair asin θ m.cF m.cL m.cT hcf (hsin _) (hsin _)
    cases b <;> simp only [pickTrans, solidFluidAt, velS, legRho, legVel, legSign,
      snell_snell asin hsin _ _ _ _ hcl, snell_snell asin hsin _ _ _ _ hct,
      snell_self asin θ _ hcf hasin]
    · rw [trans_ratio_L asin m θ _ _ hρf hρs hcf hcl hcos]; ring
    · rw [trans_ratio_T asin m θ _ _ hρf hρs hcf hcl hct hcos hLT]; ring
  · -- reflection against a solid|fluid wall: all angles are Snell images of `θ` from mode `a`
    rw [coefVal_refl, coefVal_refl_rev]
    cases a <;> cases b <;> simp only [pickRefl, solidFluidAt, velS, legRho, legVel, legSign,
      snell_snell asin hsin _ _ _ _ hcl, snell_snell asin hsin _ _ _ _ hct,
      snell_self asin θ _ hcl hasin, snell_self asin θ _ hct hasin]
    · -- L→L: the reverse coefficient is the same entry at the same angle (`snell_self`)
      ring
    · -- L→T: `θ` is the L angle of `refl_ratio_LT`
      rw [refl_ratio_LT asin m _ θ _ hcl hct (snell_sin asin θ _ _ hcl (hsin _))]; ring
    · -- T→L: `θ` is the T angle, and `refl_ratio_LT` rewrites the reverse coefficient
      rw [refl_ratio_LT asin m _ _ θ hcl hct (snell_sin asin θ _ _ hct (hsin _)).symm]; ring
    · -- T→T: as L→L; the two signs multiply to `1`
      ring

end ratio

noncomputable section beam
open Arim.C06 Arim.C07

/-- the virtual distance which the reverse routine computes is `∏γ` times the direct one; no
Snell's law is needed (only `γ' = 1/γ`, `revGammas_inv`) -/
theorem rev_virtualDistance (legs vels thetas : List ℝ) (hlen : thetas.length + 1 = vels.length)
    (hlegs : legs.length = vels.length) (hg : ∀ γ ∈ gammas rT vels thetas, γ ≠ 0) :
    virtualDistance 1 legs.reverse (revGammas rT vels.reverse thetas.reverse)
      = (gammas rT vels thetas).prod * virtualDistance 1 legs (gammas rT vels thetas) := by
  rw [revGammas_inv rT rfl vels thetas hlen]
  exact virtualDistance_reverse legs _ (by rw [gammas_length rT vels thetas hlen]; omega) hg

end beam

noncomputable section path
open Arim.C06 Arim.C07

/-- one interior interface of a path, seen from the ray: mode of the outgoing leg (in the solid),
real incidence angle `θ`, real exit (refraction/reflection) angle `φ` -/
structure Step where
  mOut : Mode
  θ : ℝ
  φ : ℝ

/-- the real media of a path as the complex record on which the interface coefficients are computed -/
def toC (m : Media ℝ) : Media ℂ := mediaR m.rhoF m.rhoS m.cF m.cL m.cT

/-- what the path theorems assume of the media: positive densities and velocities, so that no impedance vanishes
and the square roots of `legG` and of the beamspread ratio behave -/
structure MediaPos (m : Media ℝ) : Prop where
  rhoF : 0 < m.rhoF
  rhoS : 0 < m.rhoS
  cF : 0 < m.cF
  cL : 0 < m.cL
  cT : 0 < m.cT

theorem velS_toC (m : Media ℝ) (a : Mode) : velS (toC m) a = ((velS m a : ℝ) : ℂ) := by
  cases a <;> rfl

theorem legVel_toC (m : Media ℝ) (ℓ : Leg) : legVel (toC m) ℓ = ((legVel m ℓ : ℝ) : ℂ) := by
  rcases ℓ with _ | a
  · rfl
  · exact velS_toC m a

theorem legRho_toC (m : Media ℝ) (ℓ : Leg) : legRho (toC m) ℓ = ((legRho m ℓ : ℝ) : ℂ) := by
  rcases ℓ with _ | a <;> rfl

theorem velS_pos {m : Media ℝ} (h : MediaPos m) (a : Mode) : 0 < velS m a := by
  cases a
  · exact h.cL
  · exact h.cT

theorem legVel_pos {m : Media ℝ} (h : MediaPos m) (ℓ : Leg) : 0 < legVel m ℓ := by
  rcases ℓ with _ | a
  · exact h.cF
  · exact velS_pos h a

theorem legRho_pos {m : Media ℝ} (h : MediaPos m) (ℓ : Leg) : 0 < legRho m ℓ := by
  rcases ℓ with _ | a
  · exact h.rhoF
  · exact h.rhoS

theorem legSign_mul_self {K : Type} [Ring K] (ℓ : Leg) : (legSign ℓ : K) * legSign ℓ = 1 := by
  rcases ℓ with _ | _ | _ <;> simp [legSign]

/-- the interior interfaces of the path that starts along leg `ℓ` -/
def specsFrom (m : Media ℂ) : Leg → List Step → List (IfaceSpec ℂ)
  | _, [] => []
  | ℓ, st :: sts => specOf m ℓ st.mOut (st.θ : ℂ) :: specsFrom m (some st.mOut) sts

/-- the leg velocities of the path that starts along leg `ℓ`: the list the beamspread routines (`gammas`) are given -/
def velsFrom (m : Media ℝ) (ℓ : Leg) (steps : List Step) : List ℝ :=
  legVel m ℓ :: steps.map (fun st => velS m st.mOut)

/-- the leg on which the path ends: its invariant is what is left at the far end after telescoping (`path_ratio`) -/
def lastLeg : Leg → List Step → Leg
  | ℓ, [] => ℓ
  | _, st :: sts => lastLeg (some st.mOut) sts

theorem lastLeg_eq_getLast (ℓ : Leg) (steps : List Step) (hne : steps ≠ []) :
    lastLeg ℓ steps = some (steps.getLast hne).mOut :=
  match ℓ, steps, hne with
  | _, [], hne => absurd rfl hne
  | _, [_], _ => rfl
  | _, st :: st' :: sts, _ => lastLeg_eq_getLast (some st.mOut) (st' :: sts) (List.cons_ne_nil _ _)

theorem coef_specsFrom (t : CTrig ℂ) (m : Media ℂ) (d : Bool) (ℓ : Leg) (steps : List Step) :
    ∀ s ∈ specsFrom m ℓ steps, coef t m d s = .ok (coefVal t m d s) ∧
      coef t m d (revSpec t s) = .ok (coefVal t m d (revSpec t s)) := by
  induction steps generalizing ℓ with
  | nil => exact fun s hs => nomatch hs
  | cons st sts ih => exact List.forall_mem_cons.2 ⟨coef_specOf t m d ℓ st.mOut st.θ, ih _⟩

/-- the direct and the reverse product along an immersion-type path are defined, whatever the
angles: they are the products of the coefficient values -/
theorem transRefl_specsFrom (t : CTrig ℂ) (m : Media ℂ) (d : Bool) (ℓ : Leg) (steps : List Step)
    (hne : steps ≠ []) :
    transRefl t m d (specsFrom m ℓ steps)
      = .ok (some ((specsFrom m ℓ steps).map (coefVal t m d)).prod) ∧
    revTransRefl t m d (specsFrom m ℓ steps)
      = .ok (some (((specsFrom m ℓ steps).map (revSpec t)).map (coefVal t m d)).prod) := by
  obtain ⟨st, sts, rfl⟩ := List.exists_cons_of_ne_nil hne
  have hc := coef_specsFrom t m d ℓ (st :: sts)
  constructor
  · rw [transRefl_ok _ _ _ _ fun s hs => (hc s hs).1]
    rfl
  · rw [revTransRefl, transRefl_ok _ _ _ _ (List.forall_mem_map.2 fun s hs => (hc s hs).2)]
    rfl

/-- the geometric hypotheses at every interior interface: the arcsine returns the (real)
incidence angle at its sine, the Snell image of the incidence angle which the reverse routine
computes is the real exit angle `φ`, and both angles are in `(−π/2, π/2)` (positive cosine) -/
def GoodFrom (asin : ℂ → ℂ) (m : Media ℝ) : Leg → List Step → Prop
  | _, [] => True
  | ℓ, st :: sts =>
    (asin (Complex.sin st.θ) = st.θ ∧
      snell (cTrig asin) (st.θ : ℂ) (legVel (toC m) ℓ) (legVel (toC m) (some st.mOut)) = (st.φ : ℂ) ∧
      0 < Real.cos st.θ ∧ 0 < Real.cos st.φ) ∧ GoodFrom asin m (some st.mOut) sts

/-- the leg invariant `ρ c^{3/2}` -/
def legG (m : Media ℝ) (ℓ : Leg) : ℝ := legRho m ℓ * legVel m ℓ * Real.sqrt (legVel m ℓ)

theorem legG_pos {m : Media ℝ} (h : MediaPos m) (ℓ : Leg) : 0 < legG m ℓ :=
  mul_pos (mul_pos (legRho_pos h ℓ) (legVel_pos h ℓ)) (Real.sqrt_pos.2 (legVel_pos h ℓ))

theorem velsFrom_length (m : Media ℝ) (ℓ : Leg) (steps : List Step) :
    (velsFrom m ℓ steps).length = steps.length + 1 := by simp [velsFrom]

/-- real Snell's law at an interface, from the hypothesis on the arcsine -/
theorem snell_real_of_good {asin : ℂ → ℂ} (hsin : ∀ x, Complex.sin (asin x) = x) {m : Media ℝ}
    (h : MediaPos m) (ℓ : Leg) (b : Mode) (θ φ : ℝ)
    (hφ : snell (cTrig asin) (θ : ℂ) (legVel (toC m) ℓ) (legVel (toC m) (some b)) = (φ : ℂ)) :
    legVel m ℓ * Real.sin φ = legVel m (some b) * Real.sin θ := by
  have h2 := snell_sin asin (θ : ℂ) (legVel (toC m) ℓ) (legVel (toC m) (some b))
    (by rw [legVel_toC]; exact Complex.ofReal_ne_zero.2 (legVel_pos h ℓ).ne') (hsin _)
  rw [hφ, legVel_toC, legVel_toC] at h2
  exact_mod_cast h2

/-- under Snell's law the first interface factor of the code is Schmerr's ray-tube factor
`c_in cos²φ / (c_out cos²θ)` -/
theorem gammas_velsFrom_cons {asin : ℂ → ℂ} (hsin : ∀ x, Complex.sin (asin x) = x) {m : Media ℝ}
    (h : MediaPos m) (ℓ : Leg) (st : Step) (sts : List Step)
    (hφ : snell (cTrig asin) (st.θ : ℂ) (legVel (toC m) ℓ) (legVel (toC m) (some st.mOut)) = (st.φ : ℂ)) :
    gammas rT (velsFrom m ℓ (st :: sts)) ((st :: sts).map (·.θ))
      = legVel m ℓ * Real.cos st.φ * Real.cos st.φ
          / (legVel m (some st.mOut) * Real.cos st.θ * Real.cos st.θ)
        :: gammas rT (velsFrom m (some st.mOut) sts) (sts.map (·.θ)) :=
  gamma_snell rT (legVel m ℓ) (legVel m (some st.mOut)) st.θ st.φ _ _ (legVel_pos h _).ne'
    (snell_real_of_good hsin h ℓ st.mOut st.θ st.φ hφ) (rT_pyth st.φ)

theorem gammas_pos {asin : ℂ → ℂ} (hsin : ∀ x, Complex.sin (asin x) = x) {m : Media ℝ}
    (h : MediaPos m) (ℓ : Leg) (steps : List Step) (hg : GoodFrom asin m ℓ steps) :
    ∀ γ ∈ gammas rT (velsFrom m ℓ steps) (steps.map (·.θ)), 0 < γ := by
  induction steps generalizing ℓ with
  | nil => exact fun γ hγ => nomatch hγ
  | cons st sts ih =>
    obtain ⟨⟨_, hφ, hθpos, hφpos⟩, hrest⟩ := hg
    rw [gammas_velsFrom_cons hsin h ℓ st sts hφ]
    exact List.forall_mem_cons.2 ⟨div_pos (mul_pos (mul_pos (legVel_pos h ℓ) hφpos) hφpos)
      (mul_pos (mul_pos (legVel_pos h _) hθpos) hθpos), ih _ hrest⟩

/-- one interface: `√γ · (ρ_in c_in cos θ) · ρ_out c_out^{3/2} = (ρ_out c_out cos φ) · ρ_in c_in^{3/2}` -/
theorem sqrt_step (vin vout ρin ρout cθ cφ : ℝ) (hvin : 0 < vin) (hvout : 0 < vout)
    (hθ : 0 < cθ) (hφ : 0 < cφ) :
    Real.sqrt ((vin * cφ * cφ) / (vout * cθ * cθ)) * (ρin * vin * cθ) * (ρout * vout * Real.sqrt vout)
      = (ρout * vout * cφ) * (ρin * vin * Real.sqrt vin) := by
  -- the root taken factor by factor, `√vin · cφ / (√vout · cθ)`, and the denominator multiplied across
  rw [mul_assoc vin, mul_assoc vout, Real.sqrt_div (mul_nonneg hvin.le (mul_self_nonneg _)),
    Real.sqrt_mul hvin.le, Real.sqrt_mul hvout.le, Real.sqrt_mul_self hφ.le,
    Real.sqrt_mul_self hθ.le, div_mul_eq_mul_div, div_mul_eq_mul_div,
    div_eq_iff (mul_ne_zero (Real.sqrt_pos.2 hvout).ne' hθ.ne')]
  ring

/-- the per-interface ratio `e1` and the geometric factor `e2` combine, `Y_in` cancels -/
theorem step_cancel {cd cr σi σo γ Yi Yo Gi Go : ℂ} (e1 : cd * Yo = σi * σo * (cr * Yi))
    (e2 : γ * Yi * Go = Yo * Gi) (hσ : σo * σo = 1) (hY : Yi ≠ 0) :
    cd * γ * (σo * Go) = cr * (σi * Gi) := by
  apply mul_right_cancel₀ hY
  linear_combination (cd * σo) * e2 + (σo * Gi) * e1 + (σi * cr * Yi * Gi) * hσ

/-- the signed leg invariant `σ ρ c^{3/2}`: across an interface `c_direct · √γ · g(out) =
c_reverse · g(in)`, so that along a path everything but the first and the last `g` cancels -/
def legInv (m : Media ℝ) (ℓ : Leg) : ℂ := legSign ℓ * (legG m ℓ : ℝ)

theorem legInv_ne {m : Media ℝ} (h : MediaPos m) (ℓ : Leg) : legInv m ℓ ≠ 0 := by
  refine mul_ne_zero (fun h0 => ?_) (Complex.ofReal_ne_zero.2 (legG_pos h ℓ).ne')
  simpa [h0] using legSign_mul_self (K := ℂ) ℓ

/-- one interface (`hs`) in front of a telescoped path (`IH`): the invariant `g_b` of the leg between
them cancels -/
theorem telescope_cons {cd cr T Trev γ Γ gi gb gl : ℂ} (hs : cd * γ * gb = cr * gi)
    (IH : T * Γ * gl = Trev * gb) (hb : gb ≠ 0) : cd * T * (γ * Γ) * gl = cr * Trev * gi := by
  apply mul_right_cancel₀ hb
  linear_combination (T * Γ * gl) * hs + (cr * gi) * IH

/-- one interface of a path: `coefVal_ratio` and `sqrt_step`, from which `ρ_in c_in cos θ` cancels -/
theorem step_ratio {asin : ℂ → ℂ} (hsin : ∀ x, Complex.sin (asin x) = x) {m : Media ℝ}
    (h : MediaPos m) (ℓ : Leg) (st : Step) (hasin : asin (Complex.sin st.θ) = st.θ)
    (hφ : snell (cTrig asin) (st.θ : ℂ) (legVel (toC m) ℓ) (legVel (toC m) (some st.mOut)) = (st.φ : ℂ))
    (hθpos : 0 < Real.cos st.θ) (hφpos : 0 < Real.cos st.φ) :
    coefVal (cTrig asin) (toC m) true (specOf (toC m) ℓ st.mOut st.θ)
        * (Real.sqrt (legVel m ℓ * Real.cos st.φ * Real.cos st.φ
            / (legVel m (some st.mOut) * Real.cos st.θ * Real.cos st.θ)) : ℝ)
        * legInv m (some st.mOut)
      = coefVal (cTrig asin) (toC m) true (revSpec (cTrig asin) (specOf (toC m) ℓ st.mOut st.θ))
        * legInv m ℓ := by
  have hne : ∀ x : ℝ, 0 < x → (x : ℂ) ≠ 0 := fun x hx => Complex.ofReal_ne_zero.2 hx.ne'
  have hcos : Complex.cos (st.θ : ℂ) ≠ 0 := by
    rw [← Complex.ofReal_cos]; exact hne _ hθpos
  have e1 := coefVal_ratio asin (toC m) hsin (hne _ h.rhoF) (hne _ h.rhoS)
    (hne _ h.cF) (hne _ h.cL) (hne _ h.cT) ℓ st.mOut (st.θ : ℂ) hasin hcos
  rw [hφ, legRho_toC, legVel_toC, legRho_toC, legVel_toC] at e1
  have e2 := congrArg Complex.ofReal
    (show _ * _ * legG m (some st.mOut) = _ * legG m ℓ from
      sqrt_step (legVel m ℓ) (legVel m (some st.mOut)) (legRho m ℓ) (legRho m (some st.mOut)) _ _
        (legVel_pos h _) (legVel_pos h _) hθpos hφpos)
  push_cast at e2
  have hK : ((legRho m ℓ : ℝ) : ℂ) * (legVel m ℓ : ℝ) * Complex.cos st.θ ≠ 0 :=
    mul_ne_zero (mul_ne_zero (hne _ (legRho_pos h ℓ)) (hne _ (legVel_pos h ℓ))) hcos
  exact step_cancel e1 e2 (legSign_mul_self _) hK

/-- Telescoping: `∏ coef(direct) · √(∏γ) · g(last leg) = ∏ coef(reverse) · g(first leg)` -/
theorem path_ratio {asin : ℂ → ℂ} (hsin : ∀ x, Complex.sin (asin x) = x) {m : Media ℝ}
    (h : MediaPos m) (ℓ : Leg) (steps : List Step) (hg : GoodFrom asin m ℓ steps) :
    ((specsFrom (toC m) ℓ steps).map (coefVal (cTrig asin) (toC m) true)).prod
        * (Real.sqrt (gammas rT (velsFrom m ℓ steps) (steps.map (·.θ))).prod : ℝ)
        * legInv m (lastLeg ℓ steps)
      = (((specsFrom (toC m) ℓ steps).map (revSpec (cTrig asin))).map
            (coefVal (cTrig asin) (toC m) true)).prod * legInv m ℓ := by
  induction steps generalizing ℓ with
  | nil => simp [specsFrom, velsFrom, gammas, lastLeg]
  | cons st sts ih =>
    have hpos := gammas_pos hsin h ℓ (st :: sts) hg
    obtain ⟨⟨hasin, hφ, hθpos, hφpos⟩, hrest⟩ := hg
    rw [gammas_velsFrom_cons hsin h ℓ st sts hφ] at hpos ⊢
    simp only [specsFrom, lastLeg, List.map_cons, List.prod_cons]
    rw [Real.sqrt_mul (hpos _ List.mem_cons_self).le, Complex.ofReal_mul]
    exact telescope_cons (step_ratio hsin h ℓ st hasin hφ hθpos hφpos) (ih _ hrest) (legInv_ne h _)

end path

end Arim.Recip
