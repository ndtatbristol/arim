import ArimModel.Tfm
import ArimProofs.Lemmas.Frame
import ArimProofs.Lemmas.Das
import Mathlib.Algebra.Order.Floor.Ring
import Mathlib.Tactic.Ring
/-! Helper lemmas for C12 (TFM pipelines `ArimModel/Tfm.lean` over the delay-and-sum model
    `ArimModel/Das.lean`): the standard instances of `Ops`/`Data` on an ordered field (the same as those of
    `Lemmas/Das.lean`, whose lemmas they use), the per-pair term, images as sums over pair lists and the expansion
    of a pair list by reciprocity. -/

namespace Arim.Tfm
open Arim.Das Arim.Frame

section Std
variable {K : Type} [Field K] [LinearOrder K] [FloorRing K]

/-! `roundHalfEven`, `stdOps`, `stdData` stand here because statements of C12 mention them under these names; they are
`Das`'s by `rfl` (`roundHalfEven_eq_das`, `stdOps_eq_das`, `stdData_eq_das`). -/

/-- nearest integer, ties to even (CPython / numba `round`) -/
def roundHalfEven (x : K) : Int :=
  let f := ⌊x⌋
  let d := x - f
  if d < 1/2 then f else if 1/2 < d then f + 1 else if f % 2 = 0 then f else f + 1

theorem roundHalfEven_eq_das (x : K) : roundHalfEven x = Das.roundHalfEven x := rfl

/-- the numerical primitives on a linearly ordered field with floor; `sinc` is a parameter -/
def stdOps (sinc : K → K) : Ops K :=
  { floor := Int.floor, round := roundHalfEven, ofInt := fun z => (z : K), sinc := sinc }

@[simp] theorem stdOps_ofInt (sinc : K → K) (z : Int) : (stdOps sinc).ofInt z = (z : K) := rfl
@[simp] theorem stdOps_round (sinc : K → K) (x : K) : (stdOps sinc).round x = roundHalfEven x := rfl
@[simp] theorem stdOps_floor (sinc : K → K) (x : K) : (stdOps sinc).floor x = ⌊x⌋ := rfl

theorem stdOps_eq_das (sinc : K → K) : stdOps sinc = Das.stdOps sinc := rfl
end Std

section Field
variable {K : Type} [Field K]

/-- samples in the scalar field itself -/
def stdData : Data K K :=
  { zero := 0, add := (· + ·), sub := (· - ·), mul := (· * ·), smul := (· * ·),
    divNat := fun x n => x / (n : K) }

theorem stdData_eq_das : (stdData : Data K K) = Das.stdData := rfl

theorem getD_mem {ι : Type} (L : List ι) {k : Nat} (hk : k < L.length) (d : ι) : L.getD k d ∈ L := by
  rw [← List.getElem_eq_getD (h := hk)]; exact List.getElem_mem hk

theorem sum_range_getD {ι M : Type} [AddCommMonoid M] (L : List ι) (f : ι → M) (d : ι) :
    ∑ k ∈ Finset.range L.length, f (L.getD k d) = (L.map f).sum := by
  induction L with
  | nil => simp
  | cons a l ih =>
    rw [List.length_cons, Finset.sum_range_succ']
    simp only [List.getD_cons_succ, List.getD_cons_zero, List.map_cons, List.sum_cons]
    rw [ih, add_comm]

theorem dasMean_eq_sum (fill : K) (N : Nat) (term : Nat → Option K) :
    dasMean stdData fill N term = (∑ k ∈ Finset.range N, (term k).getD fill) / (N : K) :=
  dasMean_stdData fill N term

theorem length_mul_div [CharZero K] {ι : Type} (l : List ι) (S : K) (h : l = [] → S = 0) :
    (l.length : K) * (S / (l.length : K)) = S :=
  mul_div_cancel_of_imp' fun h0 => h (List.length_eq_zero_iff.1 (Nat.cast_eq_zero.1 h0))

theorem length_mul_mean [CharZero K] {ι : Type} (l : List ι) (f : ι → K) :
    (l.length : K) * ((l.map f).sum / (l.length : K)) = (l.map f).sum :=
  length_mul_div l _ (by rintro rfl; rfl)

end Field

section Term
variable {α β : Type} [Add α] [Sub α] [Mul α] [Div α] [LT α] [DecidableLT α]

/-- fractional sample index of the pair `p` at grid point `pt` -/
def pairLoc (ops : Ops α) (ltTx ltRx : Nat → Nat → α) (t0 dt : α) (pt : Nat) (p : Pair) : α :=
  (ltTx pt p.1 + ltRx pt p.2 - t0) * (ops.ofInt 1 / dt)

/-- the delayed sample of the element pair `p`: a function of the pair only -/
def pairTerm (ops : Ops α) (d : Data α β) (G : Nat → Nat → Nat → β) (n : Nat)
    (ltTx ltRx : Nat → Nat → α) (t0 dt : α) (it : Interp) (pt : Nat) (p : Pair) : Option β :=
  interpOf ops d it n (G p.1 p.2) (pairLoc ops ltTx ltRx t0 dt pt p)

theorem term_frameProblem (ops : Ops α) (d : Data α β) (L : List Pair) (G : Nat → Nat → Nat → β)
    (n : Nat) (ltTx ltRx : Nat → Nat → α) (t0 dt : α) (it : Interp) (pt k : Nat) :
    termNoAmp ops d (frameProblem L G n ltTx ltRx t0 dt) it pt k =
      pairTerm ops d G n ltTx ltRx t0 dt it pt (L.getD k (0, 0)) := by
  rw [termNoAmp_eq_interpOf]; rfl

end Term

section Sums
variable {K : Type} [Field K] [LinearOrder K]

theorem interpOf_scale_getD (ops : Ops K) (it : Interp) (n : Nat) (g : Nat → K) (w loc : K) :
    (interpOf ops stdData it n (fun i => w * g i) loc).getD 0 =
      w * (interpOf ops stdData it n g loc).getD 0 := by
  rw [interpOf_map (d := stdData) (stdData_isHom_mul w)]
  cases interpOf ops stdData it n g loc <;> simp

omit [LinearOrder K] in
theorem dasMean_pairs (L : List Pair) (fill : K) (term : Nat → Option K) (T : Pair → K)
    (h : ∀ k < L.length, (term k).getD fill = T (L.getD k (0, 0))) :
    dasMean stdData fill L.length term = (L.map T).sum / (L.length : K) := by
  rw [dasMean_eq_sum, ← sum_range_getD L T (0, 0)]
  exact congrArg (· / _) (Finset.sum_congr rfl fun k hk => h k (Finset.mem_range.1 hk))

theorem das_frame_eq_sum (ops : Ops K) (L : List Pair) (G : Nat → Nat → Nat → K) (ns : Nat)
    (ltTx ltRx : Nat → Nat → K) (t0 dt : K) (it : Interp) (fill : K) (pt : Nat) :
    dasNoAmp ops stdData (frameProblem L G ns ltTx ltRx t0 dt) it fill pt =
      (L.map (fun p => (pairTerm ops stdData G ns ltTx ltRx t0 dt it pt p).getD fill)).sum /
        (L.length : K) :=
  dasMean_pairs L fill _ _ fun k _ => by rw [term_frameProblem]

theorem das_frame_perm (ops : Ops K) {L L' : List Pair} (h : L.Perm L') (G : Nat → Nat → Nat → K) (ns : Nat)
    (ltTx ltRx : Nat → Nat → K) (t0 dt : K) (it : Interp) (fill : K) (pt : Nat) :
    dasNoAmp ops stdData (frameProblem L G ns ltTx ltRx t0 dt) it fill pt =
      dasNoAmp ops stdData (frameProblem L' G ns ltTx ltRx t0 dt) it fill pt := by
  rw [das_frame_eq_sum, das_frame_eq_sum, (h.map _).sum_eq, h.length_eq]

/-- default weight of a pair in a frame: `1` if the mirror pair is recorded, else `2` -/
def weightOf (L : List Pair) (p : Pair) : Nat := if swap p ∈ L then 1 else 2

theorem defaultWeights_getD (L : List Pair) (k : Nat) (hk : k < L.length) :
    (defaultWeights L).getD k 1 = weightOf L (L.getD k (0, 0)) := by
  simp [defaultWeights, weightOf, hk]

/-- the fill value of an out-of-window lookup is not weighted -/
theorem contact_eq_sum_fill (ops : Ops K) (L : List Pair) (G : Nat → Nat → Nat → K) (ns : Nat)
    (lk : Nat → Nat → K) (t0 dt : K) (it : Interp) (fill : K) (pt : Nat) :
    contactTfm ops stdData L G ns lk t0 dt it fill pt =
      (L.map (fun p => ((pairTerm ops stdData G ns lk lk t0 dt it pt p).map
        (fun v => ops.ofInt (weightOf L p : Nat) * v)).getD fill)).sum / (L.length : K) := by
  refine dasMean_pairs L fill _ _ fun k hk => ?_
  rw [termNoAmp_weigh (d := stdData) stdData_isHom_mul]
  show ((termNoAmp ops stdData (frameProblem L G ns lk lk t0 dt) it pt k).map _).getD fill = _
  rw [term_frameProblem, defaultWeightsS, defaultWeights_getD L k hk]
  rfl

theorem contact_eq_sum (ops : Ops K) (L : List Pair) (G : Nat → Nat → Nat → K) (ns : Nat)
    (lk : Nat → Nat → K) (t0 dt : K) (it : Interp) (pt : Nat) :
    contactTfm ops stdData L G ns lk t0 dt it 0 pt =
      (L.map (fun p => ops.ofInt (weightOf L p : Nat) *
        (pairTerm ops stdData G ns lk lk t0 dt it pt p).getD 0)).sum / (L.length : K) := by
  rw [contact_eq_sum_fill]
  congr 2
  refine List.map_congr_left (fun p _ => ?_)
  cases pairTerm ops stdData G ns lk lk t0 dt it pt p <;> simp

theorem pairTerm_congr {β : Type} (ops : Ops K) (d : Data K β) {G G' : Nat → Nat → Nat → β} (ns : Nat)
    (ltTx ltRx : Nat → Nat → K) (t0 dt : K) (it : Interp) (pt : Nat) {p : Pair} (h : G p.1 p.2 = G' p.1 p.2) :
    pairTerm ops d G ns ltTx ltRx t0 dt it pt p = pairTerm ops d G' ns ltTx ltRx t0 dt it pt p := by
  rw [pairTerm, pairTerm, h]

theorem pairTerm_swap {β : Type} (ops : Ops K) (d : Data K β) (G : Nat → Nat → Nat → β)
    (hG : ∀ i j s, G i j s = G j i s) (ns : Nat) (A B : Nat → Nat → K) (t0 dt : K)
    (it : Interp) (pt : Nat) (p : Pair) :
    pairTerm ops d G ns A B t0 dt it pt (swap p) = pairTerm ops d G ns B A t0 dt it pt p := by
  have hg : G p.2 p.1 = G p.1 p.2 := funext (fun s => hG p.2 p.1 s)
  simp only [pairTerm, pairLoc, swap, hg, add_comm (A pt p.2) (B pt p.1)]

omit [LinearOrder K] in
theorem ofInt_weightOf (ops : Ops K) (h1 : ops.ofInt 1 = 1) (h2 : ops.ofInt 2 = 2)
    (L : List Pair) (p : Pair) : ops.ofInt (weightOf L p : Nat) = (weightOf L p : K) := by
  unfold weightOf
  split <;> simp [h1, h2]

end Sums

section Recip

/-- `L` followed by the mirrors of the pairs of `L` whose mirror is not recorded -/
def expandPairs (L : List Pair) : List Pair :=
  L ++ (L.filter (fun p => decide (swap p ∉ L))).map swap

theorem mem_expandPairs (L : List Pair) (p : Pair) :
    p ∈ expandPairs L ↔ p ∈ L ∨ swap p ∈ L := by
  rw [expandPairs, List.mem_append, mem_map_swap, List.mem_filter, swap_swap, decide_eq_true_eq]
  by_cases h : p ∈ L <;> simp [h]

theorem expandPairs_nodup (L : List Pair) (h : L.Nodup) : (expandPairs L).Nodup := by
  refine List.Nodup.append h ((h.filter _).map swap_injective) fun q hq hq' => ?_
  rw [mem_map_swap, List.mem_filter, swap_swap, decide_eq_true_eq] at hq'
  exact hq'.2 hq

theorem perm_expandPairs (L L' : List Pair) (hL : L.Nodup) (hL' : L'.Nodup)
    (hmem : ∀ p, p ∈ L' ↔ (p ∈ L ∨ swap p ∈ L)) : L'.Perm (expandPairs L) := by
  rw [List.perm_ext_iff_of_nodup hL' (expandPairs_nodup L hL)]
  intro p; rw [hmem, mem_expandPairs]

theorem weighted_sum_expand {M : Type} [CommSemiring M] (L : List Pair) (T : Pair → M)
    (hT : ∀ p, T (swap p) = T p) :
    (L.map (fun p => (weightOf L p : M) * T p)).sum = ((expandPairs L).map T).sum := by
  have hw : ∀ p, (weightOf L p : M) * T p = if swap p ∈ L then T p else T p + T p := fun p => by
    unfold weightOf; split <;> simp [two_mul]
  simp only [hw, List.sum_map_ite, List.sum_map_add, expandPairs, List.map_append, List.sum_append, List.map_map]
  -- `Σ_{mirror ∈ L} T + (Σ_{mirror ∉ L} T + Σ_{mirror ∉ L} T) = Σ_L T + Σ_{mirror ∉ L} T ∘ swap`: the first two sums on the
  -- left make up `Σ_L T`
  rw [← add_assoc, List.sum_map_filter_add_sum_map_filter_not (swap · ∈ L), show T ∘ swap = T from funext hT]

theorem map_swap_perm (L : List Pair) (hnd : L.Nodup) (hcl : ∀ p ∈ L, swap p ∈ L) :
    (L.map swap).Perm L := by
  rw [List.perm_ext_iff_of_nodup (hnd.map swap_injective) hnd]
  intro p
  rw [mem_map_swap]
  exact ⟨fun h => by simpa [swap_swap] using hcl _ h, hcl p⟩

theorem weightOf_of_closed (L : List Pair) (hcl : ∀ p ∈ L, swap p ∈ L) (p : Pair) (hp : p ∈ L) :
    weightOf L p = 1 := by simp [weightOf, hcl p hp]

end Recip

section Spike
variable {K : Type} [Field K] [LinearOrder K]

/-- the frame whose `k`-th timetrace is a unit spike at the nearest-sample index of the arrival
    time of the grid point `pstar`; tables, `t0`, `dt` are those of `q` -/
def spikeProblem (ops : Ops K) (q : Problem K K) (pstar : Nat) : Problem K K :=
  { q with g := fun k s => if s = (ops.round (locB ops q pstar k)).toNat then 1 else 0 }

theorem spike_term (ops : Ops K) (p : Problem K K) (pstar pt k : Nat)
    (hwin : 0 ≤ ops.round (locB ops p pstar k) ∧ ops.round (locB ops p pstar k) < (p.n : Int))
    (hg : ∀ s, p.g k s = if s = (ops.round (locB ops p pstar k)).toNat then 1 else 0) :
    (termNoAmp ops stdData p .nearest pt k).getD 0 =
      if ops.round (locB ops p pt k) = ops.round (locB ops p pstar k) then 1 else 0 := by
  show (interpNearest ops p.n (p.g k) (locB ops p pt k)).getD 0 = _
  rw [interpNearest_eq, funext hg]
  generalize ops.round (locB ops p pt k) = i
  generalize ops.round (locB ops p pstar k) = j at hwin
  split
  · exact (if_neg (by omega)).symm
  · exact if_congr (by omega) rfl rfl

end Spike

end Arim.Tfm
