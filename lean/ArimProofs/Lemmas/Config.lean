import ArimModel.Config
import ArimProofs.Lemmas.Assoc
/-! Lemmas for C20: `sortByName` is a sorted permutation; `upsert` and `mergeKVs` seen through `lookup`
    and through the list of keys; well-formed trees `WF`, which `combine` preserves and on which it is
    idempotent. Core only. -/
namespace Arim.Config

def NameLE (a b : String × Cfg) : Prop := a.1 ≤ b.1

theorem insertByName_perm (x : String × Cfg) (l : List (String × Cfg)) :
    (insertByName x l).Perm (x :: l) := by
  induction l with
  | nil => exact List.Perm.refl _
  | cons y ys ih =>
    simp only [insertByName]
    split
    · exact List.Perm.refl _
    · exact (List.Perm.cons y ih).trans (List.Perm.swap x y ys)

theorem sortByName_perm (l : List (String × Cfg)) : (sortByName l).Perm l := by
  induction l with
  | nil => exact List.Perm.refl _
  | cons x xs ih =>
    exact (insertByName_perm x _).trans (List.Perm.cons x ih)

theorem insertByName_sorted (x : String × Cfg) (l : List (String × Cfg))
    (h : l.Pairwise NameLE) : (insertByName x l).Pairwise NameLE := by
  induction l with
  | nil => exact List.pairwise_singleton _ _
  | cons y ys ih =>
    rw [insertByName]
    split
    · rename_i hxy
      exact List.Pairwise.cons (List.forall_mem_cons.2
        ⟨hxy, fun z hz => String.le_trans hxy (List.rel_of_pairwise_cons h hz)⟩) h
    · rename_i hxy
      refine List.Pairwise.cons (fun z hz => ?_) (ih h.tail)
      rcases List.mem_cons.1 ((insertByName_perm x ys).subset hz) with rfl | hz
      · exact (String.le_total _ _).resolve_left hxy
      · exact List.rel_of_pairwise_cons h hz

theorem sortByName_sorted (l : List (String × Cfg)) : (sortByName l).Pairwise NameLE := by
  induction l with
  | nil => exact List.Pairwise.nil
  | cons x xs ih => exact insertByName_sorted x _ ih

/-- both are the first entry under their name -/
theorem eq_of_name_eq {l : List (String × Cfg)} (hnd : (l.map (·.1)).Nodup)
    {a b : String × Cfg} (ha : a ∈ l) (hb : b ∈ l) (h : a.1 = b.1) : a = b :=
  have hq : ∀ e : String × Cfg, decide (e.1 = b.1) = true ↔ e.1 = b.1 := fun _ => decide_eq_true_iff
  Option.some.inj ((Assoc.of_mem (val := id) hq hnd ha h).symm.trans (Assoc.of_mem hq hnd hb rfl))

theorem sortByName_eq_of_perm {l₁ l₂ : List (String × Cfg)} (hp : l₁.Perm l₂)
    (hnd : (l₁.map (·.1)).Nodup) : sortByName l₁ = sortByName l₂ := by
  have p1 := sortByName_perm l₁
  have p2 := sortByName_perm l₂
  refine List.Perm.eq_of_pairwise (le := NameLE) ?_ (sortByName_sorted l₁) (sortByName_sorted l₂)
    (p1.trans (hp.trans p2.symm))
  intro a b ha hb hab hba
  exact eq_of_name_eq hnd (p1.subset ha) (hp.symm.subset (p2.subset hb)) (String.le_antisymm hab hba)

theorem sortByName_cons (x : String × Cfg) (l : List (String × Cfg)) :
    sortByName (x :: l) = insertByName x (sortByName l) := rfl

theorem insertByName_last (x : String × Cfg) (l : List (String × Cfg)) (h : ∀ y ∈ l, ¬ x.1 ≤ y.1) :
    insertByName x l = l ++ [x] := by
  induction l with
  | nil => rfl
  | cons y ys ih =>
    rw [insertByName, if_neg (h y List.mem_cons_self),
      ih fun z hz => h z (List.mem_cons_of_mem _ hz), List.cons_append]

theorem loadConf_eq (base : Cfg) (l : List (String × Cfg)) :
    loadConf base l = (sortByName l).foldl (fun acc f => merge acc f.2) base := rfl

theorem loadConf_induction {P : Cfg → Prop} {base : Cfg} {l : List (String × Cfg)} (h0 : P base)
    (step : ∀ acc, P acc → ∀ f ∈ l, P (merge acc f.2)) : P (loadConf base l) :=
  List.foldlRecOn (sortByName l) _ h0 fun acc hacc f hf =>
    step acc hacc f ((sortByName_perm l).subset hf)

def lookup (kvs : KVs) (k : String) : Option Cfg := (kvs.find? (·.1 = k)).map (·.2)

/-- `d[k]` for a mapping (`none` for scalars and for missing keys) -/
def get? : Cfg → String → Option Cfg
  | .leaf _, _ => none
  | .node kvs, k => (kvs.find? (·.1 = k)).map (·.2)

/-- the keys of a mapping, in insertion order -/
def keys : Cfg → List String
  | .leaf _ => []
  | .node kvs => kvs.map (·.1)

@[simp] theorem get?_node (kvs : KVs) (k : String) : get? (.node kvs) k = lookup kvs k := rfl
@[simp] theorem get?_leaf (s k : String) : get? (.leaf s) k = none := rfl
@[simp] theorem keys_node (kvs : KVs) : keys (.node kvs) = kvs.map (·.1) := rfl
@[simp] theorem keys_leaf (s : String) : keys (.leaf s) = [] := rfl

@[simp] theorem lookup_nil (k : String) : lookup [] k = none := rfl

theorem lookup_cons (k' : String) (v' : Cfg) (rest : KVs) (k : String) :
    lookup ((k', v') :: rest) k = if k' = k then some v' else lookup rest k := by
  unfold lookup
  by_cases h : k' = k <;> simp [h]

theorem lookup_eq_none_iff (b : KVs) (k : String) : lookup b k = none ↔ k ∉ b.map (·.1) :=
  Assoc.eq_none_iff (fun _ => decide_eq_true_iff) b

theorem mem_of_lookup_eq_some {b : KVs} {k : String} {v : Cfg} (h : lookup b k = some v) :
    (k, v) ∈ b := by
  obtain ⟨e, he, rfl, rfl⟩ := Assoc.mem_of_eq_some (key := fun e : String × Cfg => e.1)
    (val := fun e => e.2) (fun _ => decide_eq_true_iff) h
  exact he

theorem lookup_of_mem {b : KVs} (hnd : (b.map (·.1)).Nodup) {k : String} {v : Cfg}
    (h : (k, v) ∈ b) : lookup b k = some v :=
  Assoc.of_mem (key := fun e : String × Cfg => e.1) (val := fun e => e.2)
    (fun _ => decide_eq_true_iff) hnd h rfl

@[simp] theorem upsert_nil (k : String) (f : Cfg → Cfg) (d : Cfg) : upsert k f d [] = [(k, d)] := rfl

@[simp] theorem upsert_cons (k : String) (f : Cfg → Cfg) (d : Cfg) (k' : String) (v' : Cfg)
    (rest : KVs) :
    upsert k f d ((k', v') :: rest) =
      if k' = k then (k', f v') :: rest else (k', v') :: upsert k f d rest := rfl

theorem lookup_upsert (k : String) (f : Cfg → Cfg) (d : Cfg) (b : KVs) (k' : String) :
    lookup (upsert k f d b) k' =
      if k' = k then some (match lookup b k with | some old => f old | none => d)
      else lookup b k' := by
  induction b with
  | nil => by_cases h : k' = k <;> simp [lookup_cons, h, eq_comm (a := k)]
  | cons p rest ih =>
    obtain ⟨k₁, v₁⟩ := p
    by_cases h₁ : k₁ = k
    · subst h₁
      by_cases h : k' = k₁ <;> simp [lookup_cons, h, eq_comm (a := k₁)]
    · by_cases h : k' = k
      · subst h; simp [lookup_cons, h₁, ih]
      · simp [lookup_cons, h₁, ih, h]

theorem keys_upsert (k : String) (f : Cfg → Cfg) (d : Cfg) (b : KVs) :
    (upsert k f d b).map (·.1) = if k ∈ b.map (·.1) then b.map (·.1) else b.map (·.1) ++ [k] := by
  induction b with
  | nil => rfl
  | cons p rest ih =>
    rw [upsert]
    by_cases h : p.1 = k
    · rw [if_pos h, if_pos (List.mem_map.2 ⟨p, List.mem_cons_self, h⟩)]; rfl
    · simp only [if_neg h, List.map_cons, ih, List.mem_cons, Ne.symm h, false_or]
      split <;> rfl

theorem mem_keys_upsert (k : String) (f : Cfg → Cfg) (d : Cfg) (b : KVs) (k' : String) :
    k' ∈ (upsert k f d b).map (·.1) ↔ k' ∈ b.map (·.1) ∨ k' = k := by
  rw [keys_upsert]
  split
  · rename_i h
    exact ⟨Or.inl, fun h' => h'.elim id (· ▸ h)⟩
  · rw [List.mem_append, List.mem_singleton]

theorem nodup_keys_upsert (k : String) (f : Cfg → Cfg) (d : Cfg) (b : KVs)
    (h : (b.map (·.1)).Nodup) : ((upsert k f d b).map (·.1)).Nodup := by
  rw [keys_upsert]
  split
  · exact h
  · rename_i hk
    exact List.nodup_append.2 ⟨h, List.pairwise_singleton _ k,
      fun a ha b hb e => hk (List.mem_singleton.1 hb ▸ e ▸ ha)⟩

theorem upsert_eq_self {k : String} {f : Cfg → Cfg} {d : Cfg} {b : KVs} {old : Cfg}
    (h : lookup b k = some old) (hf : f old = old) : upsert k f d b = b := by
  induction b with
  | nil => cases h
  | cons q rest ih =>
    obtain ⟨k', v'⟩ := q
    rw [lookup_cons] at h
    rw [upsert_cons]
    split at h
    · rw [if_pos ‹_›, Option.some.inj h, hf]
    · rw [if_neg ‹_›, ih h]

@[simp] theorem mergeKVs_nil (b : KVs) : mergeKVs b [] = b := by simp [mergeKVs]

@[simp] theorem mergeKVs_cons (b : KVs) (k : String) (v : Cfg) (rest : KVs) :
    mergeKVs b ((k, v) :: rest) = mergeKVs (upsert k (fun old => combine old v) v b) rest := by
  simp [mergeKVs]

@[simp] theorem combine_leaf_right (old : Cfg) (s : String) : combine old (.leaf s) = .leaf s := by
  simp [combine]

@[simp] theorem combine_leaf_left (s : String) (v : Cfg) : combine (.leaf s) v = v := by
  cases v <;> simp [combine]

@[simp] theorem combine_node_node (b t : KVs) :
    combine (.node b) (.node t) = .node (mergeKVs b t) := by
  simp [combine]

@[simp] theorem merge_leaf_left (s : String) (t : Cfg) : merge (.leaf s) t = t := combine_leaf_left s t

@[simp] theorem merge_node_node (b t : KVs) :
    merge (.node b) (.node t) = .node (mergeKVs b t) := combine_node_node b t

theorem lookup_mergeKVs_of_none {t : KVs} {k : String} (h : lookup t k = none) (b : KVs) :
    lookup (mergeKVs b t) k = lookup b k := by
  induction t generalizing b with
  | nil => rw [mergeKVs_nil]
  | cons p rest ih =>
    obtain ⟨k', v'⟩ := p
    rw [lookup_cons] at h
    by_cases hk : k' = k
    · simp [hk] at h
    · simp only [hk, if_false] at h
      rw [mergeKVs_cons, ih h, lookup_upsert, if_neg (Ne.symm hk)]

theorem lookup_mergeKVs_of_some {t : KVs} (hnd : (t.map (·.1)).Nodup) {k : String} {v : Cfg}
    (h : lookup t k = some v) (b : KVs) :
    lookup (mergeKVs b t) k
      = some (match lookup b k with | some old => combine old v | none => v) := by
  induction t generalizing b with
  | nil => simp at h
  | cons p rest ih =>
    obtain ⟨k', v'⟩ := p
    simp only [List.map_cons, List.nodup_cons] at hnd
    rw [lookup_cons] at h
    by_cases hk : k' = k
    · subst hk
      simp only [if_true, Option.some.injEq] at h
      subst h
      rw [mergeKVs_cons, lookup_mergeKVs_of_none ((lookup_eq_none_iff _ _).2 hnd.1),
        lookup_upsert, if_pos rfl]
    · simp only [hk, if_false] at h
      rw [mergeKVs_cons, ih hnd.2 h, lookup_upsert, if_neg (Ne.symm hk)]

theorem mem_keys_mergeKVs (b t : KVs) (k : String) :
    k ∈ (mergeKVs b t).map (·.1) ↔ k ∈ b.map (·.1) ∨ k ∈ t.map (·.1) := by
  induction t generalizing b with
  | nil => simp [mergeKVs_nil]
  | cons p rest ih =>
    obtain ⟨k', v'⟩ := p
    rw [mergeKVs_cons, ih, mem_keys_upsert, List.map_cons, List.mem_cons, or_assoc]

/-- what a tree of Python dicts satisfies: the keys of every node are distinct -/
inductive WF : Cfg → Prop where
  | leaf (s : String) : WF (.leaf s)
  | node (kvs : KVs) : (kvs.map (·.1)).Nodup → (∀ p ∈ kvs, WF p.2) → WF (.node kvs)

@[simp] theorem wf_leaf (s : String) : WF (.leaf s) := WF.leaf s

theorem wf_node_iff (kvs : KVs) :
    WF (.node kvs) ↔ (kvs.map (·.1)).Nodup ∧ ∀ p ∈ kvs, WF p.2 := by
  constructor
  · intro h; cases h with | node _ h1 h2 => exact ⟨h1, h2⟩
  · intro h; exact WF.node kvs h.1 h.2

/-- simultaneous induction over trees and their child lists: the recursor of the nested
inductive type, for propositions -/
theorem Cfg.induct {P : Cfg → Prop} {Q : KVs → Prop}
    (leaf : ∀ s, P (.leaf s)) (node : ∀ l, Q l → P (.node l))
    (nil : Q []) (cons : ∀ k v l, P v → Q l → Q ((k, v) :: l)) :
    (∀ c, P c) ∧ (∀ l, Q l) :=
  ⟨fun c => Cfg.rec (motive_1 := P) (motive_2 := Q) (motive_3 := fun p => P p.2)
      leaf node nil (fun _ _ hp hl => cons _ _ _ hp hl) (fun _ _ h => h) c,
   fun l => Cfg.rec_1 (motive_1 := P) (motive_2 := Q) (motive_3 := fun p => P p.2)
      leaf node nil (fun _ _ hp hl => cons _ _ _ hp hl) (fun _ _ h => h) l⟩

theorem wf_upsert {k : String} {f : Cfg → Cfg} {d : Cfg} {b : KVs} (hb : WF (.node b))
    (hf : ∀ old, WF old → WF (f old)) (hd : WF d) : WF (.node (upsert k f d b)) := by
  obtain ⟨hnd, hch⟩ := (wf_node_iff b).1 hb
  have hnd' := nodup_keys_upsert k f d b hnd
  refine WF.node _ hnd' fun p hp => ?_
  have hp' := lookup_of_mem hnd' (show (p.1, p.2) ∈ _ from hp)
  rw [lookup_upsert] at hp'
  split at hp'
  · cases hl : lookup b k with
    | none => rw [hl] at hp'; exact Option.some.inj hp' ▸ hd
    | some old =>
      rw [hl] at hp'
      exact Option.some.inj hp' ▸ hf old (hch _ (mem_of_lookup_eq_some hl))
  · exact hch _ (mem_of_lookup_eq_some hp')

theorem combine_mergeKVs_wf :
    (∀ v, WF v → ∀ old, WF old → WF (combine old v)) ∧
    (∀ t, (∀ p ∈ t, WF p.2) → ∀ b, WF (.node b) → WF (.node (mergeKVs b t))) := by
  apply Cfg.induct
  · intro s _ old _; simp
  · intro t ih ht old ho
    cases old with
    | leaf s => simpa using ht
    | node b => rw [combine_node_node]; exact ih ((wf_node_iff _).1 ht).2 b ho
  · intro _ b hb; rw [mergeKVs_nil]; exact hb
  · intro k v l ihv ihl ht b hb
    rw [mergeKVs_cons]
    have hv : WF v := ht (k, v) List.mem_cons_self
    exact ihl (fun p hp => ht p (List.mem_cons_of_mem _ hp)) _
      (wf_upsert hb (fun old ho => ihv hv old ho) hv)

theorem mergeKVs_eq_self_of_absorbs {t : KVs} (c : KVs)
    (h : ∀ k v, (k, v) ∈ t → ∃ old, lookup c k = some old ∧ combine old v = old) :
    mergeKVs c t = c := by
  induction t with
  | nil => rw [mergeKVs_nil]
  | cons p rest ih =>
    obtain ⟨k, v⟩ := p
    obtain ⟨old, h1, h2⟩ := h k v List.mem_cons_self
    rw [mergeKVs_cons, upsert_eq_self h1 h2]
    exact ih (fun k v hm => h k v (List.mem_cons_of_mem _ hm))

theorem combine_idem_aux :
    (∀ v, WF v → ∀ old, combine (combine old v) v = combine old v) ∧
    (∀ t : KVs, ∀ p ∈ t, WF p.2 → ∀ old, combine (combine old p.2) p.2 = combine old p.2) := by
  apply Cfg.induct
  · intro s _ old; simp
  · intro t ih ht old
    obtain ⟨hnd, hch⟩ := (wf_node_iff _).1 ht
    -- a key new to the mapping holds `v = combine (.leaf "") v`, so one shape covers every entry
    obtain ⟨c, hc, hlk⟩ : ∃ c, combine old (.node t) = .node c ∧
        ∀ k v, (k, v) ∈ t → ∃ old', lookup c k = some (combine old' v) := by
      cases old with
      | leaf s =>
        exact ⟨t, combine_leaf_left _ _, fun k v hm =>
          ⟨.leaf "", by rw [combine_leaf_left, lookup_of_mem hnd hm]⟩⟩
      | node b =>
        refine ⟨_, combine_node_node b t, fun k v hm => ?_⟩
        rw [lookup_mergeKVs_of_some hnd (lookup_of_mem hnd hm)]
        cases lookup b k with
        | none => exact ⟨.leaf "", by rw [combine_leaf_left]⟩
        | some o => exact ⟨o, rfl⟩
    rw [hc, combine_node_node, mergeKVs_eq_self_of_absorbs c fun k v hm => ?_]
    obtain ⟨old', h⟩ := hlk k v hm
    exact ⟨_, h, ih (k, v) hm (hch _ hm) old'⟩
  · intro p hp; cases hp
  · intro k v l ihv ihl p hp
    rcases List.mem_cons.1 hp with rfl | hp
    · exact ihv
    · exact ihl p hp

end Arim.Config
