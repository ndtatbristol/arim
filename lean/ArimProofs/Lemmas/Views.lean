import ArimModel.Views
import ArimProofs.Lemmas.ListFold
import Mathlib.Data.Prod.Lex
import Mathlib.Data.List.Lex
import Mathlib.Data.Char
import Mathlib.Data.List.Nodup
import Mathlib.Data.List.ProdSigma
import Mathlib.Data.List.Forall2
import Mathlib.Data.List.Induction
/-! Helper lemmas for C18: `keyLt` compares keys in the lexicographic product order, the stable
    insertion sort is a sorted permutation, `filterUnique` one view at a time, `mapM` into
    `Option` as a pointwise relation. -/
namespace Arim.ViewsLemmas
open Arim.Views

theorem wordLt_iff (u v : Word) : wordLt u v = true ↔ u < v := by
  induction u generalizing v with
  | nil => cases v <;> simp [wordLt]
  | cons a as ih =>
    cases v with
    | nil => simp [wordLt]
    | cons b bs => simp [wordLt, ih, List.cons_lt_cons_iff]

/-- `orderKey` as an element of the lexicographic product: Python sorts by comparing the key
tuples of `default_viewname_order` from the left, which is `<` on this type -/
def lexKey (v : VName) : ℕ ×ₗ ℕ ×ₗ ℕ ×ₗ ℕ ×ₗ Word ×ₗ Word :=
  toLex (v.1.length + v.2.length, toLex (max v.1.length v.2.length, toLex (v.2.length,
    toLex (v.1.length, toLex (v.1, v.2)))))

/-- the key ends with both path names, so different views never tie -/
theorem lexKey_injective : Function.Injective lexKey := by
  intro a b h
  simp only [lexKey, EmbeddingLike.apply_eq_iff_eq, Prod.mk.injEq] at h
  exact Prod.ext h.2.2.2.2.1 h.2.2.2.2.2

/-- one level of the comparison chain in `keyLt` -/
theorem lex_step {α : Type} [Preorder α] (x y : α) [Decidable (x ≠ y)] {lt r : Bool} {R : Prop}
    (hlt : lt = true ↔ x < y) (hr : r = true ↔ R) :
    (if x ≠ y then lt else r) = true ↔ x < y ∨ x = y ∧ R := by
  by_cases h : x = y
  · simp [h, hr]
  · simp [h, hlt]

theorem keyLt_iff (a b : VName) : keyLt a b = true ↔ lexKey a < lexKey b := by
  simp only [lexKey, Prod.Lex.toLex_lt_toLex]
  exact lex_step _ _ decide_eq_true_iff <| lex_step _ _ decide_eq_true_iff <|
    lex_step _ _ decide_eq_true_iff <| lex_step _ _ decide_eq_true_iff <|
    lex_step _ _ (wordLt_iff _ _) (wordLt_iff _ _)

theorem keyLt_eq_false_iff (a b : VName) : keyLt b a = false ↔ lexKey a ≤ lexKey b := by
  rw [← not_lt, ← keyLt_iff, Bool.not_eq_true]

theorem keyLe_antisymm {a b : VName} (h1 : keyLt b a = false) (h2 : keyLt a b = false) : a = b :=
  lexKey_injective (le_antisymm ((keyLt_eq_false_iff a b).1 h1) ((keyLt_eq_false_iff b a).1 h2))

theorem eq_of_perm_of_keySorted {l l' : List VName} (hp : l.Perm l')
    (h : l.Pairwise (fun a b => keyLt b a = false))
    (h' : l'.Pairwise (fun a b => keyLt b a = false)) : l = l' :=
  hp.eq_of_pairwise (fun _ _ _ _ => keyLe_antisymm) h h'

theorem insertView_perm (x : VName) (l : List VName) : (insertView x l).Perm (x :: l) := by
  induction l with
  | nil => exact List.Perm.refl _
  | cons y ys ih =>
    unfold insertView
    split
    · exact List.Perm.refl _
    · exact ((List.Perm.cons y ih).trans (List.Perm.swap x y ys))

theorem sortViews_concat (l : List VName) (x : VName) :
    sortViews (l ++ [x]) = insertView x (sortViews l) := by
  rw [sortViews, List.foldl_append]; rfl

theorem sortViews_perm (l : List VName) : (sortViews l).Perm l := by
  induction l using List.reverseRecOn with
  | nil => exact List.Perm.refl _
  | append_singleton l x ih =>
    rw [sortViews_concat]
    exact (insertView_perm x _).trans ((ih.cons x).trans (List.perm_append_singleton x l).symm)

abbrev KeySorted (l : List VName) : Prop := l.Pairwise (fun a b => lexKey a ≤ lexKey b)

theorem insertView_sorted (x : VName) (l : List VName) (h : KeySorted l) :
    KeySorted (insertView x l) := by
  induction l with
  | nil => exact List.pairwise_singleton _ _
  | cons y ys ih =>
    rw [KeySorted, List.pairwise_cons] at h
    unfold insertView
    split
    · rename_i hxy
      have hxy := ((keyLt_iff x y).1 hxy).le
      exact List.Pairwise.cons
        (List.forall_mem_cons.2 ⟨hxy, fun z hz => hxy.trans (h.1 z hz)⟩) (List.Pairwise.cons h.1 h.2)
    · rename_i hxy
      refine List.Pairwise.cons (fun z hz => ?_) (ih h.2)
      rcases List.mem_cons.mp ((insertView_perm x ys).subset hz) with rfl | hz
      · exact not_lt.1 fun hlt => hxy ((keyLt_iff _ _).2 hlt)
      · exact h.1 z hz

theorem sortViews_sorted (l : List VName) :
    (sortViews l).Pairwise (fun a b => keyLt b a = false) := by
  suffices h : KeySorted (sortViews l) from h.imp fun h => (keyLt_eq_false_iff _ _).2 h
  induction l using List.reverseRecOn with
  | nil => exact List.Pairwise.nil
  | append_singleton l x ih => rw [sortViews_concat]; exact insertView_sorted x _ ih

theorem allPairs_eq_product (names : List Word) : allPairs names = names ×ˢ names := rfl

theorem allPairs_nodup {names : List Word} (h : names.Nodup) : (allPairs names).Nodup :=
  h.product h

/-- one step of `filter_unique_views`; the state is the views kept so far, as a queue and as a
stack -/
def uniqStep (st : List VName × List VName) (v : VName) : List VName × List VName :=
  if st.2.contains (recip v) then st else (st.1 ++ [v], v :: st.2)

theorem filterUnique_def (l : List VName) : filterUnique l = (l.foldl uniqStep ([], [])).1 := rfl

theorem foldl_uniqStep_snd (l a : List VName) :
    (l.foldl uniqStep (a, a.reverse)).2 = (l.foldl uniqStep (a, a.reverse)).1.reverse := by
  induction l generalizing a with
  | nil => rfl
  | cons v vs ih =>
    rw [List.foldl_cons, uniqStep]
    split
    · exact ih a
    · have := ih (a ++ [v])
      rwa [List.reverse_append, List.reverse_singleton, List.singleton_append] at this

theorem filterUnique_concat (l : List VName) (v : VName) :
    filterUnique (l ++ [v]) =
      if recip v ∈ filterUnique l then filterUnique l else filterUnique l ++ [v] := by
  have hc : (l.foldl uniqStep ([], [])).2.contains (recip v) = true ↔ recip v ∈ filterUnique l := by
    rw [show (l.foldl uniqStep ([], [])).2 = _ from foldl_uniqStep_snd l [], List.contains_iff_mem,
      List.mem_reverse]; rfl
  rw [filterUnique_def (l ++ [v]), List.foldl_append, List.foldl_cons, List.foldl_nil, uniqStep]
  by_cases h : recip v ∈ filterUnique l
  · rw [if_pos (hc.2 h), if_pos h]; rfl
  · rw [if_neg (mt hc.1 h), if_neg h]; rfl

theorem filterUnique_prefix (l m : List VName) : filterUnique l <+: filterUnique (l ++ m) := by
  induction m using List.reverseRecOn with
  | nil => rw [List.append_nil]; exact List.prefix_refl _
  | append_singleton m v ih =>
    rw [← List.append_assoc, filterUnique_concat]
    split
    · exact ih
    · exact ih.trans (List.prefix_append _ _)

theorem mapM_eq_some_iff {α β : Type} {f : α → Option β} {l : List α} {l' : List β} :
    l.mapM f = some l' ↔ List.Forall₂ (fun a b => f a = some b) l l' := by
  rw [Arim.mapM_eq_some_iff, ← List.forall₂_eq_eq_eq, List.forall₂_map_left_iff,
    List.forall₂_map_right_iff]

end Arim.ViewsLemmas
