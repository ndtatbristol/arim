import ArimModel.Frame
import ArimProofs.Lemmas.ListFold
import ArimProofs.Lemmas.PyIndex
import ArimProofs.Lemmas.Assoc
import Mathlib.Data.List.Nodup
import Mathlib.Data.Prod.Lex
import Mathlib.Data.List.Perm.Subperm
import Mathlib.Data.List.Induction
/-! Lemmas for C15 (frame bookkeeping model `ArimModel/Frame.lean`).  `pairLt` is read as the lexicographic order of
Mathlib, `lookup` as an instance of `Assoc`, `expand` on an incomplete frame as `filterMap expandEntry` over `expPairs`,
`numElements` through the least-upper-bound property of its fold, a slice through its equations for the two signs of
the step.  An integer-array index is normalised entry by entry as a `RayCache` index is: `positions_ints` identifies the
`ints` case of `Idx.positions` with `mapM (RayCache.norm n)` by `rfl`, which is why this file imports `Lemmas/PyIndex`. -/

namespace Arim.Frame
open Arim.PyIndex

theorem pairLt_iff_lex (a b : Pair) : pairLt a b = true ↔ toLex a < toLex b := by
  simp [pairLt, Prod.Lex.toLex_lt_toLex]

theorem pairLt_irrefl (a : Pair) : pairLt a a = false :=
  Bool.eq_false_iff.2 fun h => lt_irrefl _ ((pairLt_iff_lex a a).1 h)

theorem pairLt_trans {a b c : Pair} (h1 : pairLt a b = true) (h2 : pairLt b c = true) :
    pairLt a c = true :=
  (pairLt_iff_lex a c).2 (lt_trans ((pairLt_iff_lex a b).1 h1) ((pairLt_iff_lex b c).1 h2))

theorem pairLt_of_not {a b : Pair} (h1 : pairLt a b = false) (h2 : a ≠ b) : pairLt b a = true :=
  (pairLt_iff_lex b a).2 (lt_of_le_of_ne (not_lt.1 fun h => Bool.false_ne_true (h1 ▸ (pairLt_iff_lex a b).2 h))
    fun e => h2 (toLex.injective e).symm)

theorem mem_insertSorted (x p : Pair) (l : List Pair) :
    p ∈ insertSorted x l ↔ p = x ∨ p ∈ l := by
  induction l with
  | nil => simp [insertSorted]
  | cons y ys ih =>
    rw [insertSorted]
    split
    · exact List.mem_cons
    · split
      · next h => rw [eq_of_beq h, List.mem_cons, or_self_left]
      · rw [List.mem_cons, ih, List.mem_cons, or_left_comm]

theorem mem_sortDedup (p : Pair) (l : List Pair) : p ∈ sortDedup l ↔ p ∈ l := by
  induction l with
  | nil => rfl
  | cons y ys ih => rw [sortDedup, List.foldr_cons, mem_insertSorted, ← sortDedup, ih, List.mem_cons]

theorem insertSorted_sorted (x : Pair) (l : List Pair) (h : l.Pairwise (pairLt · · = true)) :
    (insertSorted x l).Pairwise (pairLt · · = true) := by
  induction l with
  | nil => exact List.pairwise_singleton _ _
  | cons y ys ih =>
    obtain ⟨hy, hys⟩ := List.pairwise_cons.1 h
    rw [insertSorted]
    split
    · next hxy =>
      exact List.pairwise_cons.2 ⟨List.forall_mem_cons.2 ⟨hxy, fun a ha => pairLt_trans hxy (hy a ha)⟩, h⟩
    · next hxy =>
      split
      · exact h
      · next hne =>
        refine List.pairwise_cons.2 ⟨fun a ha => ?_, ih hys⟩
        rcases (mem_insertSorted x a ys).1 ha with rfl | ha
        · exact pairLt_of_not (by simpa using hxy) (by simpa using hne)
        · exact hy a ha

theorem sortDedup_sorted (l : List Pair) : (sortDedup l).Pairwise (pairLt · · = true) := by
  induction l with
  | nil => exact List.Pairwise.nil
  | cons y ys ih => exact insertSorted_sorted y _ ih

theorem sortDedup_nodup (l : List Pair) : (sortDedup l).Nodup :=
  (sortDedup_sorted l).imp fun hab heq => by rw [heq, pairLt_irrefl] at hab; cases hab

theorem subset_iff (a b : List Pair) : subset a b = true ↔ ∀ x ∈ a, x ∈ b := by
  simp [subset]

theorem setEq_iff (a b : List Pair) : setEq a b = true ↔ ∀ x, x ∈ a ↔ x ∈ b := by
  simp only [setEq, Bool.and_eq_true, subset_iff]
  constructor
  · rintro ⟨h1, h2⟩ x; exact ⟨h1 x, h2 x⟩
  · intro h; exact ⟨fun x => (h x).1, fun x => (h x).2⟩

theorem setEq_eq_false_of_mem {a b : List Pair} {x : Pair} (ha : x ∈ a) (hb : x ∉ b) : setEq a b = false := by
  rw [Bool.eq_false_iff, Ne, setEq_iff]
  exact fun h => hb ((h x).1 ha)

theorem setEq_refl (a : List Pair) : setEq a a = true := (setEq_iff a a).2 fun _ => Iff.rfl

theorem swap_swap (p : Pair) : swap (swap p) = p := rfl

theorem mem_map_swap (p : Pair) (l : List Pair) : p ∈ l.map swap ↔ swap p ∈ l :=
  List.mem_map_of_involutive swap_swap

/-- the half matrix is the upper triangle of the full matrix (which is `List.range n ×ˢ List.range n` by definition) -/
theorem hmc_eq_filter (n : Nat) : hmc n = (fmc n).filter fun p => p.1 ≤ p.2 := by
  simp only [hmc, fmc, List.filter_flatMap, List.filter_map]; rfl

variable {P : Type}

theorem mem_pairsOf (f : List (TT P)) (p : Pair) :
    p ∈ pairsOf f ↔ ∃ t ∈ f, t.tx = p.1 ∧ t.rx = p.2 := by
  obtain ⟨a, b⟩ := p
  simp [pairsOf]

/-- the Boolean test `lookup` writes is equality of the key `(tx, rx)`: the `hq` of the `Assoc` lemmas, which makes
`lookup` an instance of the shared first-entry lookup -/
theorem lookup_key (p : Pair) (t : TT P) : (t.tx == p.1 && t.rx == p.2) = true ↔ (t.tx, t.rx) = p := by
  simp [Prod.ext_iff]

theorem lookup_eq_none (f : List (TT P)) (p : Pair) : lookup f p = none ↔ p ∉ pairsOf f :=
  Assoc.eq_none_iff (lookup_key p) f

theorem lookup_isSome (f : List (TT P)) (p : Pair) : (lookup f p).isSome ↔ p ∈ pairsOf f := by
  rw [← not_iff_not, ← lookup_eq_none]; simp

theorem lookup_some_mem (f : List (TT P)) (p : Pair) (d : P) (h : lookup f p = some d) :
    ({ tx := p.1, rx := p.2, data := d } : TT P) ∈ f := by
  obtain ⟨t, ht, rfl, rfl⟩ := Assoc.mem_of_eq_some (lookup_key p) h
  exact ht

theorem lookup_of_mem (f : List (TT P)) (hnd : (pairsOf f).Nodup) (t : TT P) (ht : t ∈ f) :
    lookup f (t.tx, t.rx) = some t.data :=
  Assoc.of_mem (lookup_key _) hnd ht rfl

theorem lookup_eq_some_iff (f : List (TT P)) (hnd : (pairsOf f).Nodup) (p : Pair) (d : P) :
    lookup f p = some d ↔ ({ tx := p.1, rx := p.2, data := d } : TT P) ∈ f :=
  ⟨lookup_some_mem f p d, fun h => lookup_of_mem f hnd _ h⟩

/-- the per-pair step of `expand` -/
def expandEntry (f : List (TT P)) (p : Pair) : Option (TT P) :=
  match lookup f p with
  | some d => some { tx := p.1, rx := p.2, data := d }
  | none => (lookup f (swap p)).map (fun d => { tx := p.1, rx := p.2, data := d })

/-- the sorted duplicate-free list of recorded pairs and their mirrors -/
def expPairs (f : List (TT P)) : List Pair := sortDedup (pairsOf f ++ (pairsOf f).map swap)

theorem expand_of_complete {f : List (TT P)} (h : isComplete f = true) : expand f = f := by
  rw [expand, if_pos h]

theorem expand_of_not_complete {f : List (TT P)} (h : isComplete f = false) :
    expand f = (expPairs f).filterMap (expandEntry f) := by
  rw [expand, h]; rfl

theorem mem_expPairs (f : List (TT P)) (p : Pair) :
    p ∈ expPairs f ↔ p ∈ pairsOf f ∨ swap p ∈ pairsOf f := by
  simp [expPairs, mem_sortDedup, mem_map_swap]

theorem expandEntry_some (f : List (TT P)) (p : Pair) (t : TT P) (h : expandEntry f p = some t) :
    p = (t.tx, t.rx) ∧
      (lookup f p = some t.data ∨ (lookup f p = none ∧ lookup f (swap p) = some t.data)) := by
  unfold expandEntry at h
  split at h
  · next d hd => cases h; exact ⟨rfl, Or.inl hd⟩
  · next hn =>
    obtain ⟨d, hd, rfl⟩ := Option.map_eq_some_iff.1 h
    exact ⟨rfl, Or.inr ⟨hn, hd⟩⟩

theorem expandEntry_pair {f : List (TT P)} {p : Pair} (h : p ∈ expPairs f) :
    (expandEntry f p).map (fun t => (t.tx, t.rx)) = some p := by
  unfold expandEntry
  split
  · rfl
  · next hn =>
    have hs := ((mem_expPairs f p).1 h).resolve_left ((lookup_eq_none f p).1 hn)
    obtain ⟨d, hd⟩ := Option.isSome_iff_exists.1 ((lookup_isSome f _).2 hs)
    rw [hd]; rfl

theorem pairsOf_expand_of_not_complete (f : List (TT P)) (h : isComplete f = false) :
    pairsOf (expand f) = expPairs f := by
  rw [expand_of_not_complete h, pairsOf, List.map_filterMap,
    List.filterMap_congr fun p hp => expandEntry_pair hp, List.filterMap_some]

theorem isComplete_iff (f : List (TT P)) :
    isComplete f = true ↔ ∀ p, p ∈ pairsOf f ↔ swap p ∈ pairsOf f := by
  simp [isComplete, setEq_iff, mem_map_swap]

theorem foldl_max_le_iff (l : List Pair) (a b : Nat) :
    l.foldl (fun m p => max m (max p.1 p.2)) a ≤ b ↔ a ≤ b ∧ ∀ p ∈ l, p.1 ≤ b ∧ p.2 ≤ b := by
  induction l generalizing a with
  | nil => simp
  | cons q qs ih => simp only [List.foldl_cons, ih, Nat.max_le, List.forall_mem_cons, and_assoc]

theorem numElements_eq_some_iff (ps : List Pair) (n : Nat) :
    numElements ps = some n ↔
      (∀ p ∈ ps, p.1 < n ∧ p.2 < n) ∧ ∃ p ∈ ps, p.1 + 1 = n ∨ p.2 + 1 = n := by
  cases ps with
  | nil => simp [numElements]
  | cons q qs =>
    simp only [numElements, Option.some.injEq]
    have hle := foldl_max_le_iff (q :: qs) 0
    generalize (q :: qs).foldl (fun m p => max m (max p.1 p.2)) 0 = M at *
    have hM := ((hle M).1 (Nat.le_refl M)).2
    constructor
    · rintro rfl
      refine ⟨fun p hp => ⟨Nat.lt_succ_of_le (hM p hp).1, Nat.lt_succ_of_le (hM p hp).2⟩, ?_⟩
      -- the least upper bound of a non-empty list is attained: otherwise `M - 1` would be an upper bound too
      by_contra hc
      have hlt : ∀ p ∈ q :: qs, p.1 < M ∧ p.2 < M := fun p hp =>
        ⟨Nat.lt_of_le_of_ne (hM p hp).1 fun e => hc ⟨p, hp, Or.inl (e ▸ rfl)⟩,
          Nat.lt_of_le_of_ne (hM p hp).2 fun e => hc ⟨p, hp, Or.inr (e ▸ rfl)⟩⟩
      have : M ≤ M - 1 := (hle _).2 ⟨Nat.zero_le _, fun p hp =>
        ⟨Nat.le_sub_one_of_lt (hlt p hp).1, Nat.le_sub_one_of_lt (hlt p hp).2⟩⟩
      have := (hlt q List.mem_cons_self).1
      omega
    · rintro ⟨ha, p, hp, hpn⟩
      have h1 : M ≤ n - 1 := (hle _).2 ⟨Nat.zero_le _, fun r hr =>
        ⟨Nat.le_sub_one_of_lt (ha r hr).1, Nat.le_sub_one_of_lt (ha r hr).2⟩⟩
      have := hM p hp
      omega

theorem numElements_of_bound {ps : List Pair} {n : Nat} (hn : 1 ≤ n) (hb : ∀ p ∈ ps, p.1 < n ∧ p.2 < n)
    (hm : (n - 1, n - 1) ∈ ps) : numElements ps = some n :=
  (numElements_eq_some_iff ps n).2 ⟨hb, _, hm, Or.inl (Nat.sub_add_cancel hn)⟩

theorem numElements_perm {a b : List Pair} (h : a.Perm b) : numElements a = numElements b := by
  cases a with
  | nil => rw [h.nil_eq]
  | cons x xs =>
    cases b with
    | nil => exact absurd h.symm.nil_eq (List.cons_ne_nil _ _).symm
    | cons y ys =>
      simp only [numElements, Option.some.injEq, Nat.add_right_cancel_iff]
      exact h.foldl_eq' (fun _ _ _ _ _ => Nat.max_right_comm ..) _

theorem setEq_perm_left {a a' b : List Pair} (h : a.Perm a') : setEq a b = setEq a' b := by
  rw [Bool.eq_iff_iff, setEq_iff, setEq_iff]
  simp [h.mem_iff]

theorem inferCapture_perm {a b : List Pair} (h : a.Perm b) : inferCapture a = inferCapture b := by
  simp only [inferCapture, numElements_perm h, h.length_eq, setEq_perm_left h]

theorem perm_of_setEq_of_length {a b : List Pair} (hb : b.Nodup) (hs : setEq a b = true)
    (hl : b.length = a.length) : a.Perm b := by
  rw [setEq_iff] at hs
  have : b.Subperm a := List.subperm_of_subset hb (fun x hx => (hs x).2 hx)
  exact (this.perm_of_length_le (by omega)).symm

/-- the half-matrix test of `infer_capture_method`, for `n` elements -/
def LooksHmc (n : Nat) (ps : List Pair) : Prop :=
  (hmc n).length = ps.length ∧ (setEq ps (hmc n) = true ∨ setEq ps ((hmc n).map swap) = true)

theorem looksHmc_iff {n : Nat} {ps : List Pair} :
    ((hmc n).length == ps.length && (setEq ps (hmc n) || setEq ps ((hmc n).map swap))) = true ↔ LooksHmc n ps := by
  simp only [Bool.and_eq_true, beq_iff_eq, Bool.or_eq_true, LooksHmc]

theorem inferCapture_eq_hmc_iff (ps : List Pair) :
    inferCapture ps = some .hmc ↔ ∃ n, numElements ps = some n ∧ LooksHmc n ps := by
  simp only [inferCapture, Option.map_eq_some_iff, ← looksHmc_iff]
  refine exists_congr fun n => and_congr_right fun _ => ?_
  split
  · next h => simp [h]
  · next h => split <;> simp [h]

theorem inferCapture_eq_fmc_iff (ps : List Pair) :
    inferCapture ps = some .fmc ↔ ∃ n, numElements ps = some n ∧ ¬ LooksHmc n ps ∧
      (fmc n).length = ps.length ∧ setEq ps (fmc n) = true := by
  simp only [inferCapture, Option.map_eq_some_iff, ← looksHmc_iff]
  refine exists_congr fun n => and_congr_right fun _ => ?_
  split
  · next h => simp [h]
  · next h =>
    split
    · next h' => simpa [h] using h'
    · next h' => simpa [h] using h'

theorem swap_injective : Function.Injective swap := Function.Involutive.injective swap_swap

theorem numElements_pos {ps : List Pair} {n : Nat} (h : numElements ps = some n) : 1 ≤ n := by
  cases ps with
  | nil => cases h
  | cons _ _ => cases h; exact Nat.succ_pos _

theorem mapper_nil (n old : Nat) : mapper n [] old = 0 := rfl

theorem mapper_append_singleton (n : Nat) (pos : List Nat) (a old : Nat) :
    mapper n (pos ++ [a]) old = if a = old then pos.length else mapper n pos old := by
  unfold mapper
  rw [List.length_append, List.length_singleton, List.range_succ,
    List.zip_append (by simp), List.foldl_append]
  simp

theorem mapper_spec (n : Nat) (pos : List Nat) (old : Nat) (h : old ∈ pos) :
    ∃ hk : mapper n pos old < pos.length, pos[mapper n pos old] = old := by
  induction pos using List.reverseRecOn with
  | nil => simp at h
  | append_singleton l a ih =>
    rw [mapper_append_singleton]
    split
    · next ha => subst ha; simp
    · next ha =>
      obtain ⟨hk, hv⟩ := ih ((List.mem_append.1 h).resolve_right fun h' => ha (List.mem_singleton.1 h').symm)
      exact ⟨by simp; omega, by rw [List.getElem_append_left hk]; exact hv⟩

theorem take?_eq_some_iff {α : Type} (l : List α) (pos : List Nat) (sp : List α) :
    take? l pos = some sp ↔ pos.map (l[·]?) = sp.map some := mapM_eq_some_iff _ _ _

theorem take?_getElem {α : Type} (l : List α) (pos : List Nat) (sp : List α)
    (h : take? l pos = some sp) :
    sp.length = pos.length ∧ ∀ k (hk : k < pos.length), sp[k]? = l[pos[k]]? := by
  rw [take?_eq_some_iff] at h
  have hl : pos.length = sp.length := by simpa using congrArg List.length h
  refine ⟨hl.symm, fun k hk => ?_⟩
  have := congrArg (·[k]?) h
  simpa [hk, hl ▸ hk] using this.symm

theorem noDupPairs_iff (l : List Pair) : noDupPairs l = true ↔ l.Nodup := by
  induction l with
  | nil => simp [noDupPairs]
  | cons p ps ih => simp [noDupPairs, ih]

theorem mkFrame_eq_some_iff (f g : List (TT P)) :
    mkFrame f = some g ↔ (pairsOf f).Nodup ∧ g = f := by
  rw [mkFrame, ← noDupPairs_iff]
  split <;> simp [*, eq_comm]

theorem take?_isSome {α : Type} (l : List α) (pos : List Nat) (h : ∀ i ∈ pos, i < l.length) :
    ∃ sp, take? l pos = some sp := by
  induction pos with
  | nil => exact ⟨[], rfl⟩
  | cons a as ih =>
    obtain ⟨sp, hsp⟩ := ih fun i hi => h i (List.mem_cons_of_mem _ hi)
    refine ⟨l[a]'(h a List.mem_cons_self) :: sp, ?_⟩
    rw [take?_eq_some_iff] at hsp ⊢
    simp [hsp]

theorem take?_bound {α : Type} (l : List α) (pos : List Nat) (sp : List α)
    (h : take? l pos = some sp) : ∀ i ∈ pos, i < l.length := by
  rw [take?_eq_some_iff] at h
  intro i hi
  have : l[i]? ∈ sp.map some := h ▸ List.mem_map_of_mem hi
  obtain ⟨x, -, hx⟩ := List.mem_map.1 this
  exact (List.getElem?_eq_some_iff.1 hx.symm).1

theorem mapper_inj_on (n : Nat) (pos : List Nat) (a b : Nat) (ha : a ∈ pos) (hb : b ∈ pos)
    (h : mapper n pos a = mapper n pos b) : a = b := by
  obtain ⟨h1, h2⟩ := mapper_spec n pos a ha
  obtain ⟨h3, h4⟩ := mapper_spec n pos b hb
  rw [← h2, ← h4]; simp [h]

theorem nodup_pairsOf_renumber (n : Nat) {pos : List Nat} {f : List (TT P)} (hnd : (pairsOf f).Nodup)
    (hf : ∀ t ∈ f, t.tx ∈ pos ∧ t.rx ∈ pos) :
    (pairsOf (f.map fun t => { t with tx := mapper n pos t.tx, rx := mapper n pos t.rx })).Nodup := by
  rw [pairsOf, List.map_map]
  -- `mapper` is injective on `pos` (`mapper_inj_on`), so equal renumbered pairs come from equal pairs, hence (`hnd`) from
  -- the same entry of `f`
  exact (List.Nodup.of_map _ hnd).map_on fun t ht u hu h => List.inj_on_of_nodup_map hnd ht hu (Prod.ext
    (mapper_inj_on n pos _ _ (hf t ht).1 (hf u hu).1 (congrArg Prod.fst h))
    (mapper_inj_on n pos _ _ (hf t ht).2 (hf u hu).2 (congrArg Prod.snd h)))

/-- an arithmetic progression whose terms all lie in `[0, n)` lists valid positions, none twice: what `sliceIndices_spec`
says, for either sign of the step -/
theorem arithProg_spec (st step : Int) (count n : Nat) (hs : step ≠ 0)
    (hb : ∀ k : Nat, k < count → 0 ≤ st + step * (k : Int) ∧ st + step * (k : Int) < (n : Int)) :
    (∀ i ∈ (List.range count).map (fun (k : Nat) => (st + step * (k : Int)).toNat), i < n) ∧
      ((List.range count).map (fun (k : Nat) => (st + step * (k : Int)).toNat)).Nodup := by
  constructor
  · intro i hi
    obtain ⟨k, hk, rfl⟩ := List.mem_map.1 hi
    have := hb k (List.mem_range.1 hk)
    exact (Int.toNat_lt this.1).2 this.2
  · refine List.Nodup.map_on (fun a ha b hb' hab => ?_) List.nodup_range
    have h1 := (hb a (List.mem_range.1 ha)).1
    have h2 := (hb b (List.mem_range.1 hb')).1
    have e : st + step * a = st + step * b := by
      rw [← Int.toNat_of_nonneg h1, ← Int.toNat_of_nonneg h2, hab]
    exact Int.ofNat_inj.1 ((Int.mul_eq_mul_left_iff hs).1 (Int.add_left_cancel e))

/-- with the count `⌊(sp − st − 1) / step⌋ + 1` of `slice.indices`, term `k` of the ascending progression from `st` is
still below `sp`. The first conjunct (term `k` is not below `st`) becomes the upper bound in `prog_neg` -/
theorem pos_step_bound (st sp step : Int) (h0 : 0 < step) (k : Nat)
    (hk : k < ((sp - st - 1) / step + 1).toNat) : 0 ≤ step * (k : Int) ∧ st + step * (k : Int) < sp := by
  have hk' : (k : Int) ≤ (sp - st - 1) / step := by omega
  have h1 : step * (k : Int) ≤ step * ((sp - st - 1) / step) :=
    Int.mul_le_mul_of_nonneg_left hk' (Int.le_of_lt h0)
  have h2 : step * ((sp - st - 1) / step) ≤ sp - st - 1 := Int.mul_ediv_self_le (Int.ne_of_gt h0)
  exact ⟨Int.mul_nonneg (Int.le_of_lt h0) (Int.natCast_nonneg k), by omega⟩

/-- positive step: every term of the progression lies in `[0, n)`, the bounds being clamped to `0 ≤ st`, `sp ≤ n` -/
theorem prog_pos {st sp step : Int} {n k : Nat} (h0 : 0 < step) (hst : 0 ≤ st) (hsp : sp ≤ n)
    (hk : k < (if st < sp then ((sp - st - 1) / step + 1).toNat else 0)) :
    0 ≤ st + step * (k : Int) ∧ st + step * (k : Int) < n := by
  split at hk
  · have := pos_step_bound st sp step h0 k hk; omega
  · omega

/-- negative step: the same, the bounds being clamped to `st ≤ n − 1`, `−1 ≤ sp` -/
theorem prog_neg {st sp step : Int} {n k : Nat} (h0 : step < 0) (hst : st ≤ n - 1) (hsp : -1 ≤ sp)
    (hk : k < (if sp < st then ((st - sp - 1) / (-step) + 1).toNat else 0)) :
    0 ≤ st + step * (k : Int) ∧ st + step * (k : Int) < n := by
  split at hk
  · -- a descending progression is the ascending one with `st`, `sp` exchanged and the step negated:
    -- `sp < st + step * k` (so `0 ≤`) and `0 ≤ −step * k` (so `≤ st ≤ n − 1`)
    have := pos_step_bound sp st (-step) (by omega) k hk
    rw [Int.neg_mul] at this; omega
  · omega

theorem sliceIndices_pos (start stop : Option Int) {step : Int} (h : 0 < step) (n : Nat) :
    sliceIndices start stop step n =
      let st := clamp n 0 n start 0
      let sp := clamp n 0 n stop n
      some ((List.range (if st < sp then ((sp - st - 1) / step + 1).toNat else 0)).map
        fun (k : Nat) => (st + step * (k : Int)).toNat) := by
  have h1 : ¬ step < 0 := by omega
  have h2 : step ≠ 0 := by omega
  simp only [sliceIndices, h1, h2, h, if_true, if_false]
  rfl

theorem sliceIndices_neg (start stop : Option Int) {step : Int} (h : step < 0) (n : Nat) :
    sliceIndices start stop step n =
      let st := clamp n (-1) (n - 1) start (n - 1)
      let sp := clamp n (-1) (n - 1) stop (-1)
      some ((List.range (if sp < st then ((st - sp - 1) / (-step) + 1).toNat else 0)).map
        fun (k : Nat) => (st + step * (k : Int)).toNat) := by
  have h1 : ¬ 0 < step := by omega
  have h2 : step ≠ 0 := by omega
  simp only [sliceIndices, h1, h2, h, if_true, if_false]
  rfl

theorem sliceIndices_spec (start stop : Option Int) (step : Int) (n : Nat) (l : List Nat)
    (h : sliceIndices start stop step n = some l) : (∀ i ∈ l, i < n) ∧ l.Nodup := by
  have hn : (0 : Int) ≤ n := Int.natCast_nonneg n
  rcases Int.lt_trichotomy step 0 with hs | rfl | hs
  · rw [sliceIndices_neg _ _ hs] at h
    obtain rfl := Option.some.inj h
    -- the two `clamp_bounds`: `st ≤ n − 1` and `−1 ≤ sp`, the limits `(−1, n − 1)` of a negative step
    exact arithProg_spec _ _ _ _ (Int.ne_of_lt hs) fun k hk => prog_neg hs
      (clamp_bounds _ (by decide) (Int.le_refl _) ⟨by omega, Int.le_refl _⟩).2
      (clamp_bounds _ (by decide) (Int.le_refl _) ⟨Int.le_refl _, by omega⟩).1 hk
  · cases h
  · rw [sliceIndices_pos _ _ hs] at h
    obtain rfl := Option.some.inj h
    -- the two `clamp_bounds`: `0 ≤ st` and `sp ≤ n`, the limits `(0, n)` of a positive step
    exact arithProg_spec _ _ _ _ (Int.ne_of_gt hs) fun k hk => prog_pos hs
      (clamp_bounds _ (Int.le_refl _) (Int.sub_le_self _ (by decide)) ⟨Int.le_refl _, hn⟩).1
      (clamp_bounds _ (Int.le_refl _) (Int.sub_le_self _ (by decide)) ⟨hn, Int.le_refl _⟩).2 hk

theorem positions_ints (l : List Int) (n : Nat) : (Idx.ints l).positions n = l.mapM (RayCache.norm n) := rfl

theorem positions_bound (ix : Idx) (n : Nat) (pos : List Nat) (h : ix.positions n = some pos) :
    ∀ i ∈ pos, i < n := by
  cases ix with
  | slice a b s => exact (sliceIndices_spec a b s n pos h).1
  | mask m =>
    simp only [Idx.positions] at h
    split at h
    · cases h
    · cases h; exact fun i hi => List.mem_range.1 (List.mem_filter.1 hi).1
  | ints l =>
    rw [positions_ints, mapM_eq_some_iff] at h
    intro i hi
    obtain ⟨z, -, hz⟩ := List.mem_map.1 (h ▸ List.mem_map_of_mem (f := some) hi)
    exact RayCache.norm_lt hz

/-- a slice or a boolean mask never selects a position twice (an integer array may) -/
theorem positions_nodup (ix : Idx) (hix : ∀ l, ix ≠ Idx.ints l) (n : Nat) (pos : List Nat)
    (h : ix.positions n = some pos) : pos.Nodup := by
  cases ix with
  | slice a b s => exact (sliceIndices_spec a b s n pos h).2
  | mask m =>
    simp only [Idx.positions] at h
    split at h
    · cases h
    · cases h; exact List.nodup_range.filter _
  | ints l => exact absurd rfl (hix l)

/-- `make_subprobe=True`; the `Nodup` is the duplicate check of `Frame.__init__` on the renumbered frame -/
theorem subframeFromElements_true_iff (f : List (TT P)) (probe : List Nat) (ix : Idx) (pos : List Nat)
    (hpos : ix.positions probe.length = some pos) (f' : List (TT P)) (probe' : List Nat) :
    subframeFromElements f probe ix true = some (f', probe') ↔
      take? probe pos = some probe' ∧ (pairsOf f').Nodup ∧
      f' = (f.filter fun t => pos.contains t.tx && pos.contains t.rx).map fun t =>
        { t with tx := mapper probe.length pos t.tx, rx := mapper probe.length pos t.rx } := by
  simp only [subframeFromElements, hpos, Option.bind_some, if_true, Option.bind_eq_some_iff,
    Option.map_eq_some_iff, Prod.mk.injEq, mkFrame_eq_some_iff]
  constructor
  · rintro ⟨sp, hsp, g, ⟨hnd, rfl⟩, rfl, rfl⟩; exact ⟨hsp, hnd, rfl⟩
  · rintro ⟨hsp, hnd, rfl⟩; exact ⟨_, hsp, _, ⟨hnd, rfl⟩, rfl, rfl⟩

end Arim.Frame
