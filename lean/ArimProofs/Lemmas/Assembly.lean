import ArimModel.Assembly
/-! The defining equations of the ray weights of `ArimModel/Assembly.lean`. Core only. -/
namespace Arim.Assembly
variable {C : Type}

@[simp] theorem pick_true (v one : C) : pick true v one = v := rfl
@[simp] theorem pick_false (v one : C) : pick false v one = one := rfl

variable [Mul C]

theorem txWeight_eq (sw : Switches) (one dir trans beam att : C) :
    txWeight sw one dir trans beam att =
      pick sw.directivity dir one * pick sw.transrefl trans one * pick sw.beamspread beam one
        * pick sw.attenuation att one := rfl

theorem rx_eq_tx_mul (sw : Switches) (one dir rtrans rbeam att sqrtLam : C) :
    rxWeight sw one dir rtrans rbeam att sqrtLam = txWeight sw one dir rtrans rbeam att * sqrtLam := rfl

end Arim.Assembly
