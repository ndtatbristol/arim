import ArimModel.Registration
import ArimProofs.Lemmas.Registration
import ArimProofs.Lemmas.Detect
import Mathlib.Algebra.Order.Field.Rat
import Mathlib.Algebra.Order.Ring.Abs
import Mathlib.Data.List.Forall2
import Mathlib.Algebra.Field.ZMod
/-! # C19 — front-wall registration recovers the true probe standoff and tilt

The fit (Cramer's rule on the five sums, the determinant and its growth with each abscissa, `register` through the
pulse-echo selection) is in `Lemmas/Registration.lean`; the surface detection (first maximum, monotone searches) in
`Lemmas/Detect.lean`. -/
namespace Arim.C19
open Arim.Reg Arim.Reg.Lemmas

/-- `pulseEcho` unfolded (the hypothesis is the conclusion); that what is attached to the other
timetraces does not matter is `garbage_free` -/
theorem selection_ignores_others {K : Type} (dead : Nat → Bool) (obs obs' : List (Obs K))
    (h : obs.filter (fun o => o.tx == o.rx && !dead o.tx) = obs'.filter (fun o => o.tx == o.rx && !dead o.tx)) :
    pulseEcho dead obs = pulseEcho dead obs' := h

theorem mem_pulseEcho_iff {K : Type} (dead : Nat → Bool) (obs : List (Obs K)) (o : Obs K) :
    o ∈ pulseEcho dead obs ↔ o ∈ obs ∧ o.tx = o.rx ∧ dead o.tx = false := by
  simp [pulseEcho]

/-- every selected timetrace is a pulse-echo one of a working element -/
theorem pulseEcho_mem {K : Type} (dead : Nat → Bool) (obs : List (Obs K)) (o : Obs K)
    (h : o ∈ pulseEcho dead obs) : o.tx = o.rx ∧ dead o.tx = false :=
  ((mem_pulseEcho_iff dead obs o).1 h).2

theorem sum_eq {K : Type} [AddMonoid K] (l : List K) : sum (0 : K) l = l.sum :=
  Lemmas.sum_eq l

theorem sum_perm {K : Type} [AddCommMonoid K] {l l' : List K} (h : l.Perm l') :
    sum (0 : K) l = sum (0 : K) l' := by
  rw [sum_eq, sum_eq, h.sum_eq]

/-- If the data are exactly affine in the abscissae, `d = p0 + p1 x`, the closed-form fit returns
`(p0, p1)`, provided the normal-equation determinant `n Σx² − (Σx)²` is non-zero and `n ≠ 0` in
`K`.  (The second hypothesis is automatic in characteristic zero; in characteristic `p` with
`p ∣ n` the determinant can be non-zero while the model divides by `n = 0`, and the intercept
comes out as `0`.) -/
theorem lsq_exact {K : Type} [Field K] (xs : List K) (p0 p1 : K)
    (hn : (xs.length : K) ≠ 0)
    (hD : (xs.length : K) * (xs.map (fun x => x * x)).sum - xs.sum * xs.sum ≠ 0) :
    lsq (0 : K) (fun n => (n : K)) xs (xs.map (fun x => p0 + p1 * x)) = (p0, p1) :=
  (lsq_eq_iff xs _ p0 p1 hn hD).2
    ⟨(sum_map_affine xs p0 p1).symm, (sum_zip_map_affine xs p0 p1).symm⟩

theorem lsq_denominator_nonneg {K : Type} [Field K] [LinearOrder K] [IsStrictOrderedRing K]
    (xs : List K) :
    0 ≤ (xs.length : K) * (xs.map (fun x => x * x)).sum - xs.sum * xs.sum :=
  lsqDen_nonneg xs

/-- the recursion behind positivity: adding an abscissa `a` increases `n Σx² − (Σx)²` by `Σ (a − x)²` -/
theorem lsq_denominator_cons {K : Type} [Field K] (a : K) (xs : List K) :
    (((a :: xs).length : Nat) : K) * ((a :: xs).map (fun x => x * x)).sum
        - (a :: xs).sum * (a :: xs).sum =
      ((xs.length : K) * (xs.map (fun x => x * x)).sum - xs.sum * xs.sum)
        + (xs.map (fun x => (a - x) * (a - x))).sum :=
  lsqDen_cons a xs

theorem lsq_denominator_pos {K : Type} [Field K] [LinearOrder K] [IsStrictOrderedRing K]
    (xs : List K) (h : ∃ a ∈ xs, ∃ b ∈ xs, a ≠ b) :
    0 < (xs.length : K) * (xs.map (fun x => x * x)).sum - xs.sum * xs.sum := by
  show 0 < lsqDen xs
  cases xs with
  | nil => obtain ⟨a, ha, _⟩ := h; cases ha
  | cons c xs =>
    -- one of `a ≠ b` differs from the head `c`, and its term `(c − x)²` in `lsqDen_cons` is positive
    obtain ⟨a, ha, b, hb, hab⟩ := h
    obtain ⟨x, hx, hxc⟩ : ∃ x ∈ xs, x ≠ c := by
      by_cases hac : a = c
      · have hbc : b ≠ c := fun e => hab (hac.trans e.symm)
        exact ⟨b, (List.mem_cons.1 hb).resolve_left hbc, hbc⟩
      · exact ⟨a, (List.mem_cons.1 ha).resolve_left hac, hac⟩
    rw [lsqDen_cons]
    exact add_pos_of_nonneg_of_pos (lsqDen_nonneg xs)
      ((mul_self_pos.2 (sub_ne_zero.2 (Ne.symm hxc))).trans_le
        (List.single_le_sum (sq_sub_nonneg_of_mem c xs) _ (List.mem_map.2 ⟨x, hx, rfl⟩)))

/-- exact least squares over an ordered field: two different abscissae suffice -/
theorem lsq_exact_of_two_distinct {K : Type} [Field K] [LinearOrder K] [IsStrictOrderedRing K]
    (xs : List K) (p0 p1 : K) (h : ∃ a ∈ xs, ∃ b ∈ xs, a ≠ b) :
    lsq (0 : K) (fun n => (n : K)) xs (xs.map (fun x => p0 + p1 * x)) = (p0, p1) :=
  lsq_exact xs p0 p1
    (let ⟨_, ha, _⟩ := h; Nat.cast_ne_zero.2 (List.length_pos_of_mem ha).ne')
    (lsq_denominator_pos xs h).ne'

/-- For arbitrary data, whenever `n ≠ 0` and the determinant is non-zero, the pair returned by
`lsq` solves the normal equations of the least-squares problem `min Σ (d − a − b x)²`, i.e. the
residual is orthogonal to `1` and to `x`. -/
theorem lsq_normal_equations {K : Type} [Field K] (xs ds : List K)
    (hn : (xs.length : K) ≠ 0)
    (hD : (xs.length : K) * (xs.map (fun x => x * x)).sum - xs.sum * xs.sum ≠ 0) :
    (xs.length : K) * (lsq (0 : K) (fun n => (n : K)) xs ds).1
        + (lsq (0 : K) (fun n => (n : K)) xs ds).2 * xs.sum = ds.sum ∧
    (lsq (0 : K) (fun n => (n : K)) xs ds).1 * xs.sum
        + (lsq (0 : K) (fun n => (n : K)) xs ds).2 * (xs.map (fun x => x * x)).sum
      = ((xs.zip ds).map (fun p => p.1 * p.2)).sum :=
  (lsq_eq_iff xs ds _ _ hn hD).1 rfl

section registration
variable {K : Type} [Field K] [LinearOrder K] [IsStrictOrderedRing K]

/-- the line fitted by `register` on affine pulse-echo distances is the true line -/
theorem registration_fit_exact (elemX : Nat → K) (dead : Nat → Bool) (obs : List (Obs K))
    (p0 p1 : K)
    (haff : ∀ o ∈ obs, o.tx = o.rx → dead o.tx = false → o.dist = p0 + p1 * elemX o.tx)
    (htwo : ∃ o ∈ pulseEcho dead obs, ∃ o' ∈ pulseEcho dead obs, elemX o.tx ≠ elemX o'.tx) :
    2 ≤ (pulseEcho dead obs).length ∧
    lsq (0 : K) (fun n => (n : K)) ((pulseEcho dead obs).map (fun o => elemX o.tx))
      ((pulseEcho dead obs).map (·.dist)) = (p0, p1) := by
  obtain ⟨o, ho, o', ho', hne⟩ := htwo
  refine ⟨two_le_length_of_ne ho ho' fun h => hne (by rw [h]), ?_⟩
  have hd : (pulseEcho dead obs).map (·.dist) =
      ((pulseEcho dead obs).map (fun o => elemX o.tx)).map (fun x => p0 + p1 * x) := by
    rw [List.map_map]
    exact List.map_congr_left fun a ha =>
      let ⟨h1, h2, h3⟩ := (mem_pulseEcho_iff dead obs a).1 ha
      haff a h1 h2 h3
  rw [hd]
  exact lsq_exact_of_two_distinct _ p0 p1
    ⟨_, List.mem_map.2 ⟨o, ho, rfl⟩, _, List.mem_map.2 ⟨o', ho', rfl⟩, hne⟩

/-- Elements on the probe axis at abscissae `elemX e`; every pulse-echo timetrace of a working
element carries the distance `p0 + p1 * elemX e` (all other timetraces, `tx ≠ rx` or dead
element, carry arbitrary values); at least two selected timetraces have different abscissae;
`cosOfSin` is arbitrary.  Then `register` succeeds and returns `z0 = −p0`, `sin θ = p1`, and places
every element `e < numel` (dead ones and ones without a pulse-echo timetrace included) at
`x = elemX e * cosOfSin p1`, `z = −(p0 + p1 * elemX e)`. -/
theorem registration_exact (cosOfSin : K → K) (elemX : Nat → K) (numel : Nat)
    (dead : Nat → Bool) (obs : List (Obs K)) (p0 p1 : K)
    (haff : ∀ o ∈ obs, o.tx = o.rx → dead o.tx = false → o.dist = p0 + p1 * elemX o.tx)
    (htwo : ∃ o ∈ pulseEcho dead obs, ∃ o' ∈ pulseEcho dead obs, elemX o.tx ≠ elemX o'.tx) :
    register (0 : K) (fun n => (n : K)) cosOfSin elemX numel dead obs =
      some (-p0, p1, (List.range numel).map
        (fun e => (elemX e * cosOfSin p1, -(p0 + p1 * elemX e)))) := by
  obtain ⟨hlen, hl⟩ := registration_fit_exact elemX dead obs p0 p1 haff htwo
  rw [register_of_lsq hlen hl]
  congr 3
  apply List.map_congr_left
  intro e _
  congr 1
  ring

/-- `registration_exact`, read off component by component -/
theorem registration_exact_components (cosOfSin : K → K) (elemX : Nat → K) (numel : Nat)
    (dead : Nat → Bool) (obs : List (Obs K)) (p0 p1 : K)
    (haff : ∀ o ∈ obs, o.tx = o.rx → dead o.tx = false → o.dist = p0 + p1 * elemX o.tx)
    (htwo : ∃ o ∈ pulseEcho dead obs, ∃ o' ∈ pulseEcho dead obs, elemX o.tx ≠ elemX o'.tx) :
    ∃ z0 s pts, register (0 : K) (fun n => (n : K)) cosOfSin elemX numel dead obs
        = some (z0, s, pts) ∧
      z0 = -p0 ∧ s = p1 ∧ pts.length = numel ∧
      ∀ e, e < numel → ∃ h : e < pts.length,
        (pts[e]).1 = elemX e * cosOfSin p1 ∧ (pts[e]).2 = -(p0 + p1 * elemX e) := by
  have hlen : ((List.range numel).map
      (fun e => (elemX e * cosOfSin p1, -(p0 + p1 * elemX e)))).length = numel := by
    rw [List.length_map, List.length_range]
  refine ⟨_, _, _, registration_exact cosOfSin elemX numel dead obs p0 p1 haff htwo,
    rfl, rfl, hlen, fun e he => ⟨hlen.symm ▸ he, ?_, ?_⟩⟩ <;>
  rw [List.getElem_map, List.getElem_range]

omit [LinearOrder K] [IsStrictOrderedRing K] in
/-- fewer than two selected timetraces: the registration refuses (the code raises) -/
theorem registration_none_iff (cosOfSin : K → K) (elemX : Nat → K) (numel : Nat)
    (dead : Nat → Bool) (obs : List (Obs K)) :
    register (0 : K) (fun n => (n : K)) cosOfSin elemX numel dead obs = none ↔
      (pulseEcho dead obs).length < 2 := by
  refine ⟨fun h => by_contra fun hlt => ?_, register_of_short⟩
  rw [register_of_lsq (Nat.not_lt.1 hlt) Prod.mk.eta.symm] at h
  cases h

end registration

section independence
variable {K : Type} [Field K]

/-- the registration does not depend on the order of the timetraces in the frame -/
theorem selection_order_free (cosOfSin : K → K) (elemX : Nat → K) (numel : Nat)
    (dead : Nat → Bool) {obs obs' : List (Obs K)} (h : obs.Perm obs') :
    register (0 : K) (fun n => (n : K)) cosOfSin elemX numel dead obs =
      register (0 : K) (fun n => (n : K)) cosOfSin elemX numel dead obs' :=
  register_congr_perm cosOfSin elemX numel (h.filter _)

omit [Field K] in
theorem pulseEcho_garbage_free {dead : Nat → Bool} {obs obs' : List (Obs K)}
    (h : List.Forall₂ (fun o o' => o.tx = o'.tx ∧ o.rx = o'.rx ∧
      (o.tx = o.rx → dead o.tx = false → o.dist = o'.dist)) obs obs') :
    pulseEcho dead obs = pulseEcho dead obs' := by
  refine filter_eq_of_forall₂ (h.imp fun o o' ⟨h1, h2, h3⟩ => ⟨by rw [h1, h2], fun hc => ?_⟩)
  rw [Bool.and_eq_true, beq_iff_eq, Bool.not_eq_true'] at hc
  cases o; cases o'
  exact congr (congr (congrArg Obs.mk h1) h2) (h3 hc.1 hc.2)

/-- changing the distance attached to timetraces with `tx ≠ rx` or to dead elements does not
change the result -/
theorem garbage_free (cosOfSin : K → K) (elemX : Nat → K) (numel : Nat)
    (dead : Nat → Bool) {obs obs' : List (Obs K)}
    (h : List.Forall₂ (fun o o' => o.tx = o'.tx ∧ o.rx = o'.rx ∧
      (o.tx = o.rx → dead o.tx = false → o.dist = o'.dist)) obs obs') :
    register (0 : K) (fun n => (n : K)) cosOfSin elemX numel dead obs =
      register (0 : K) (fun n => (n : K)) cosOfSin elemX numel dead obs' :=
  register_congr_perm cosOfSin elemX numel (.of_eq (pulseEcho_garbage_free h))

/-- `garbage_free` for an explicit overwrite: replace the distance of every non-selected
timetrace by `junk o` -/
theorem garbage_free_overwrite (cosOfSin : K → K) (elemX : Nat → K) (numel : Nat)
    (dead : Nat → Bool) (obs : List (Obs K)) (junk : Obs K → K) :
    register (0 : K) (fun n => (n : K)) cosOfSin elemX numel dead
        (obs.map (fun o => if o.tx = o.rx ∧ dead o.tx = false then o
          else { o with dist := junk o })) =
      register (0 : K) (fun n => (n : K)) cosOfSin elemX numel dead obs := by
  symm
  apply garbage_free
  rw [List.forall₂_map_right_iff]
  apply List.forall₂_same.2
  intro o _
  by_cases hc : o.tx = o.rx ∧ dead o.tx = false
  · rw [if_pos hc]
    exact ⟨rfl, rfl, fun _ _ => rfl⟩
  · rw [if_neg hc]
    exact ⟨rfl, rfl, fun a b => absurd ⟨a, b⟩ hc⟩

end independence

section detect
variable {K : Type} [LinearOrder K]

theorem argmaxFirst_eq_none_iff (l : List K) : argmaxFirst l = none ↔ l = [] :=
  Lemmas.argmaxFirst_eq_none_iff

/-- `argmaxFirst` is NumPy's `argmax`: on a non-empty list it returns an index in range
whose value is `≥` every value and strictly greater than every earlier value -/
theorem argmaxFirst_spec (l : List K) (hl : l ≠ []) :
    ∃ (i : Nat) (hi : i < l.length), argmaxFirst l = some i ∧
      (∀ (j : Nat) (hj : j < l.length), l[j] ≤ l[i]) ∧
      (∀ (j : Nat) (hj : j < i), l[j]'(lt_trans hj hi) < l[i]) := by
  cases hA : argmaxFirst l with
  | none => exact absurd (Lemmas.argmaxFirst_eq_none_iff.1 hA) hl
  | some i =>
    obtain ⟨m, hm, hmax, hfirst⟩ := argmaxFirst_spec' hA
    obtain ⟨hi, rfl⟩ := List.getElem?_eq_some_iff.1 hm
    exact ⟨i, hi, rfl, fun j hj => hmax j _ (List.getElem?_eq_getElem hj),
      fun j hj => hfirst j _ hj (List.getElem?_eq_getElem (lt_trans hj hi))⟩

/-- the two properties of `argmaxFirst_spec` determine the index -/
theorem argmaxFirst_unique (l : List K) (i : Nat) (hi : i < l.length)
    (hmax : ∀ (j : Nat) (hj : j < l.length), l[j] ≤ l[i])
    (hfirst : ∀ (j : Nat) (hj : j < i), l[j] < l[i]) :
    argmaxFirst l = some i := by
  have e : l = l.take i ++ l[i] :: l.drop (i + 1) := by
    rw [List.getElem_cons_drop, List.take_append_drop]
  rw [e, argmaxFirst_split, List.length_take_of_le (Nat.le_of_lt hi)]
  · intro a ha
    obtain ⟨j, hj, rfl⟩ := List.mem_take_iff_getElem.1 ha
    exact hfirst j (by omega)
  · intro b hb
    obtain ⟨j, hj, rfl⟩ := List.mem_iff_getElem.1 (List.mem_of_mem_drop hb)
    exact hmax j hj

/-- `searchLeft` is `searchsorted(side="left")`: on an increasing list the samples `< t`
are exactly those at indices below `searchLeft samples t` -/
theorem searchLeft_spec {samples : List K} (hs : samples.Pairwise (· < ·)) (t : K)
    (i : Nat) (hi : i < samples.length) :
    samples[i] < t ↔ i < searchLeft samples t :=
  searchLeft_spec' hs t (List.getElem?_eq_getElem hi)

/-- `searchRight` is `searchsorted(side="right")` -/
theorem searchRight_spec {samples : List K} (hs : samples.Pairwise (· < ·)) (t : K)
    (i : Nat) (hi : i < samples.length) :
    samples[i] ≤ t ↔ i < searchRight samples t :=
  searchRight_spec' hs t (List.getElem?_eq_getElem hi)

theorem searchLeft_eq_count {samples : List K} (hs : samples.Pairwise (· < ·)) (t : K) :
    searchLeft samples t = samples.countP (fun s => decide (s < t)) := by
  rw [searchLeft, takeWhile_eq_filter_of_mono (lt_downward hs t), List.countP_eq_length_filter]

theorem searchRight_eq_count {samples : List K} (hs : samples.Pairwise (· < ·)) (t : K) :
    searchRight samples t = samples.countP (fun s => decide (s ≤ t)) := by
  rw [searchRight, takeWhile_eq_filter_of_mono (le_downward hs t), List.countP_eq_length_filter]

theorem searchLeft_le_length (samples : List K) (t : K) :
    searchLeft samples t ≤ samples.length := (List.takeWhile_sublist _).length_le

theorem searchRight_le_length (samples : List K) (t : K) :
    searchRight samples t ≤ samples.length := (List.takeWhile_sublist _).length_le

/-- `detect_surface_from_extrema` returns the time of the first maximum of `|trace|` among the
samples in `[tmin, tmax]` (each bound only when given).  `samples` strictly increasing, one trace
value per sample; `abs` is arbitrary (the code uses `np.abs`). -/
theorem surface_time_is_argmax (abs : K → K) (samples tr : List K) (tmin tmax : Option K)
    (hs : samples.Pairwise (· < ·)) (hlen : tr.length = samples.length) (t : K)
    (h : detectSurface abs samples tr tmin tmax = some t) :
    ∃ (i : Nat) (hi : i < samples.length),
      samples[i] = t ∧ (∀ a, tmin = some a → a ≤ t) ∧ (∀ b, tmax = some b → t ≤ b) ∧
      ∀ (j : Nat) (hj : j < samples.length),
        (∀ a, tmin = some a → a ≤ samples[j]) → (∀ b, tmax = some b → samples[j] ≤ b) →
          abs (tr[j]'(hlen ▸ hj)) ≤ abs (tr[i]'(hlen ▸ hi)) ∧
          (j < i → abs (tr[j]'(hlen ▸ hj)) < abs (tr[i]'(hlen ▸ hi))) := by
  rw [detectSurface_eq] at h
  obtain ⟨k, hk, ht⟩ := Option.bind_eq_some_iff.1 h
  obtain ⟨m, hhi, hm, hmax, hfirst⟩ := argmaxFirst_window hk
  rw [window_getElem?, if_pos hhi] at ht
  obtain ⟨hi, rfl⟩ := List.getElem?_eq_some_iff.1 ht
  have hm' : abs (tr[loIdx samples tmin + k]'(hlen ▸ hi)) = m := by
    rw [List.getElem?_map, List.getElem?_eq_getElem (hlen ▸ hi)] at hm
    exact Option.some.inj hm
  refine ⟨_, hi, rfl, (loIdx_spec hs tmin _ hi).1 (Nat.le_add_right _ _),
    (hiIdx_spec hs tmax _ hi).1 hhi, fun j hj hjlo hjhi => ?_⟩
  have h1 := (loIdx_spec hs tmin j hj).2 hjlo
  have h2 := (hiIdx_spec hs tmax j hj).2 hjhi
  have hv : (tr.map abs)[j]? = some (abs (tr[j]'(hlen ▸ hj))) := by
    rw [List.getElem?_map, List.getElem?_eq_getElem (hlen ▸ hj)]; rfl
  rw [hm']
  exact ⟨hmax j _ h1 h2 hv, fun hji => hfirst j _ h1 hji hv⟩

/-- the instance for the genuine absolute value -/
theorem surface_time_is_argmax_abs {K : Type} [Field K] [LinearOrder K] [IsStrictOrderedRing K]
    (samples tr : List K) (tmin tmax : Option K)
    (hs : samples.Pairwise (· < ·)) (hlen : tr.length = samples.length) (t : K)
    (h : detectSurface (fun x => |x|) samples tr tmin tmax = some t) :
    ∃ (i : Nat) (hi : i < samples.length),
      samples[i] = t ∧ (∀ a, tmin = some a → a ≤ t) ∧ (∀ b, tmax = some b → t ≤ b) ∧
      ∀ (j : Nat) (hj : j < samples.length),
        (∀ a, tmin = some a → a ≤ samples[j]) → (∀ b, tmax = some b → samples[j] ≤ b) →
          |tr[j]'(hlen ▸ hj)| ≤ |tr[i]'(hlen ▸ hi)| ∧
          (j < i → |tr[j]'(hlen ▸ hj)| < |tr[i]'(hlen ▸ hi)|) :=
  surface_time_is_argmax (fun x => |x|) samples tr tmin tmax hs hlen t h

/-- `detectSurface` fails exactly when no sample lies in the window -/
theorem detectSurface_eq_none_iff (abs : K → K) (samples tr : List K) (tmin tmax : Option K)
    (hs : samples.Pairwise (· < ·)) (hlen : tr.length = samples.length) :
    detectSurface abs samples tr tmin tmax = none ↔
      ¬ ∃ (j : Nat) (hj : j < samples.length),
        (∀ a, tmin = some a → a ≤ samples[j]) ∧ (∀ b, tmax = some b → samples[j] ≤ b) := by
  rw [detectSurface_eq, window_bind_eq_none_iff (by rw [List.length_map, hlen])
    (hiIdx_le samples tmax)]
  -- in index terms: no `j` with `lo ≤ j < hi`
  simp only [← loIdx_spec hs, ← hiIdx_spec hs]
  have := hiIdx_le samples tmax
  constructor
  · rintro h ⟨j, -, h1, h2⟩
    omega
  · intro h
    by_contra hlt
    exact h ⟨loIdx samples tmin, by omega, Nat.le_refl _, by omega⟩

end detect

section examples

/-- three elements at `x = −1, 0, 1` -/
private def exX : Nat → ℚ := fun e => (e : ℚ) - 1
/-- a rational stand-in for `cos ∘ arcsin` (the theorems hold for any function) -/
private def exCos : ℚ → ℚ := fun s => 1 - s * s / 2
/-- full-matrix-capture frame of 3 elements in scrambled order; the diagonal carries
`5 + x/2`, the off-diagonal timetraces carry garbage -/
private def exObs : List (Obs ℚ) :=
  [⟨2, 1, 77⟩, ⟨1, 1, 5⟩, ⟨0, 2, -3⟩, ⟨2, 2, 11/2⟩, ⟨1, 0, 1000⟩, ⟨0, 1, 0⟩, ⟨0, 0, 9/2⟩,
   ⟨1, 2, 13⟩, ⟨2, 0, -1/7⟩]
/-- the same frame in natural order with different garbage -/
private def exObsSorted : List (Obs ℚ) :=
  [⟨0, 0, 9/2⟩, ⟨0, 1, 1⟩, ⟨0, 2, 2⟩, ⟨1, 0, 3⟩, ⟨1, 1, 5⟩, ⟨1, 2, 4⟩, ⟨2, 0, 5⟩, ⟨2, 1, 6⟩,
   ⟨2, 2, 11/2⟩]

/-- the model, evaluated: standoff `5`, `sin θ = 1/2` recovered from the scrambled frame -/
example : register (0 : ℚ) (fun n => (n : ℚ)) exCos exX 3 (fun _ => false) exObs =
    some (-5, 1/2, [(-7/8, -9/2), (0, -5), (7/8, -11/2)]) := by
  decide +kernel

/-- same result from the ordered frame with other garbage -/
example : register (0 : ℚ) (fun n => (n : ℚ)) exCos exX 3 (fun _ => false) exObsSorted =
    register (0 : ℚ) (fun n => (n : ℚ)) exCos exX 3 (fun _ => false) exObs := by
  decide +kernel

/-- the hypotheses of `registration_exact` are satisfiable: the theorem applies to `exObs` -/
example : register (0 : ℚ) (fun n => (n : ℚ)) exCos exX 3 (fun _ => false) exObs =
    some (-5, 1/2, (List.range 3).map
      (fun e => (exX e * exCos (1/2), -(5 + 1/2 * exX e)))) :=
  registration_exact _ _ _ _ _ _ _ (by decide +kernel) (by decide +kernel)

/-- element 2 dead (its pulse-echo timetrace now carries garbage too): the two remaining
elements still give the same plane, and the dead element is placed on it -/
example : register (0 : ℚ) (fun n => (n : ℚ)) exCos exX 3 (fun e => e == 2)
      [⟨2, 1, 77⟩, ⟨1, 1, 5⟩, ⟨0, 2, -3⟩, ⟨2, 2, 123456⟩, ⟨1, 0, 1000⟩, ⟨0, 0, 9/2⟩] =
    some (-5, 1/2, [(-7/8, -9/2), (0, -5), (7/8, -11/2)]) := by
  decide +kernel

/-- a single pulse-echo timetrace: refused -/
example : register (0 : ℚ) (fun n => (n : ℚ)) exCos exX 3 (fun _ => false)
      [⟨2, 1, 77⟩, ⟨1, 1, 5⟩, ⟨0, 2, -3⟩] = none := by
  decide +kernel

/-- the closed-form fit on exact data, and on inexact data (true least squares: the residuals
`(1/2, −1, 1/2)` are orthogonal to `1` and to `x`) -/
example : lsq (0 : ℚ) (fun n => (n : ℚ)) [-1, 0, 1] [9/2, 5, 11/2] = (5, 1/2) := by
  decide +kernel
example : lsq (0 : ℚ) (fun n => (n : ℚ)) [-1, 0, 1] [1, 0, 2] = (1, 1/2) := by
  decide +kernel

/-- why `lsq_exact` needs `n ≠ 0` in `K`: over `ZMod 3`, three abscissae `0, 1, 1`, data
exactly on the line `1 + 2x`; the determinant is non-zero, yet the intercept comes out as `0`
(division by `n = 3 = 0`) -/
example :
    (((([0, 1, 1] : List (ZMod 3)).length : ZMod 3)
        * (([0, 1, 1] : List (ZMod 3)).map (fun x => x * x)).sum
        - ([0, 1, 1] : List (ZMod 3)).sum * ([0, 1, 1] : List (ZMod 3)).sum) ≠ 0) ∧
    (haveI : Fact (Nat.Prime 3) := ⟨Nat.prime_three⟩
     lsq (0 : ZMod 3) (fun n => (n : ZMod 3)) [0, 1, 1]
        ([0, 1, 1].map (fun x => 1 + 2 * x)) = (0, 2)) := by
  constructor <;> decide +kernel

/-- `argmaxFirst` takes the first of two equal maxima; `searchLeft/Right` count -/
example : argmaxFirst ([1, 3, 3, 2] : List ℚ) = some 1 := by decide +kernel
example : searchLeft ([0, 1, 2, 3] : List ℚ) 2 = 2 := by decide +kernel
example : searchRight ([0, 1, 2, 3] : List ℚ) 2 = 3 := by decide +kernel

/-- surface detection in the window `[1, 4]`: `|trace| = 9, 1, 3, 7, 7, 10`, the first maximum
inside the window is at `t = 3`; without a window it is at `t = 5`; an empty window gives
`none` -/
example : detectSurface (fun x : ℚ => |x|) [0, 1, 2, 3, 4, 5] [9, -1, 3, -7, 7, 10]
    (some 1) (some 4) = some 3 := by decide +kernel
example : detectSurface (fun x : ℚ => |x|) [0, 1, 2, 3, 4, 5] [9, -1, 3, -7, 7, 10]
    none none = some 5 := by decide +kernel
example : detectSurface (fun x : ℚ => |x|) [0, 1, 2, 3, 4, 5] [9, -1, 3, -7, 7, 10]
    (some (5/2)) (some (14/5)) = none := by decide +kernel

/-- the hypotheses of `surface_time_is_argmax` are satisfiable -/
example : ∃ (i : Nat) (hi : i < ([0, 1, 2, 3, 4, 5] : List ℚ).length),
    ([0, 1, 2, 3, 4, 5] : List ℚ)[i] = 3 := by
  obtain ⟨i, hi, h, -⟩ := surface_time_is_argmax (fun x : ℚ => |x|) [0, 1, 2, 3, 4, 5]
    [9, -1, 3, -7, 7, 10] (some 1) (some 4) (by decide +kernel) rfl 3 (by decide +kernel)
  exact ⟨i, hi, h⟩

end examples

end Arim.C19
