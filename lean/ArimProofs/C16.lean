import ArimModel.Probe
import ArimProofs.Lemmas.Probe
import ArimProofs.Lemmas.FoldSum
import Mathlib.Algebra.Field.Rat
import Mathlib.Tactic.NormNum.Basic
/-! # C16 — probe motions are rigid and keep the probe coordinate system attached

`K` is a commutative ring (plus an arbitrary `Div K` where the model needs a division: the theorems hold whatever
the division does, in particular in every field); only the section on `make_matrix_probe` needs a field, of
characteristic zero where a mean is taken. -/
namespace Arim.C16
open Arim Arim.Geo Arim.Probe Arim.C17

variable {K : Type} [CommRing K]

/-- `Probe.translate` does not change the difference between two element locations -/
theorem translate_diff (a b v : P3 K) : vsub (vadd a v) (vadd b v) = vsub a b :=
  vadd_vsub_cancel_right a b v

/-- `Probe.translate` leaves every element's PCS coordinates unchanged -/
theorem translate_locs_pcs (cs : CS K) (p v : P3 K) :
    (cs.translate v).fromGcs (vadd p v) = cs.fromGcs p :=
  translate_fromGcs cs p v

/-- the table of squared distances between all pairs of element locations: a motion is rigid when it leaves this table
unchanged (`Rigid.dists`) -/
def pairDists (l : List (P3 K)) : List (List K) := l.map (fun a => l.map (fun b => sqdist a b))

theorem pairDists_length (l : List (P3 K)) : (pairDists l).length = l.length := by
  simp [pairDists]

theorem pairDists_get (l : List (P3 K)) (m n : Nat) (hm : m < l.length) (hn : n < l.length) :
    (pairDists l)[m]?.bind (·[n]?) = some (sqdist l[m] l[n]) := by
  simp [pairDists, hm, hn]

theorem length_eq_of_pairDists_eq {l' l : List (P3 K)} (h : pairDists l' = pairDists l) :
    l'.length = l.length := by
  simpa only [pairDists_length] using congrArg List.length h

theorem pairDists_eq_iff (l' l : List (P3 K)) :
    pairDists l' = pairDists l ↔
      ∃ h : l'.length = l.length, ∀ m n (hm : m < l.length) (hn : n < l.length),
        sqdist (l'[m]'(h ▸ hm)) (l'[n]'(h ▸ hn)) = sqdist l[m] l[n] := by
  simp only [pairDists, List.ext_getElem_iff, List.length_map, List.getElem_map]
  exact ⟨fun ⟨hl, h⟩ => ⟨hl, fun m n hm hn => (h m (hl ▸ hm) hm).2 n (hl ▸ hn) hn⟩,
    fun ⟨hl, h⟩ => ⟨hl, fun i _ hi => ⟨hl, fun j _ hj => h i j hi hj⟩⟩⟩

theorem pairDists_map (f : P3 K → P3 K) (h : ∀ a b, sqdist (f a) (f b) = sqdist a b)
    (l : List (P3 K)) : pairDists (l.map f) = pairDists l := by
  simp [pairDists, List.map_map, Function.comp_def, h]

/-- the element orientations (`Probe.orientations`, here `State.normals`) are unit vectors -/
def UnitNormals (s : State K) : Prop := ∀ n ∈ s.normals, dot n n = 1

/-- how every operation except `set_reference_element` relates the old state to the new one:
    nothing measured between elements or seen from the probe frame (`locations_pcs`,
    `orientations_pcs`) changes -/
structure Rigid (s s' : State K) : Prop where
  dists : pairDists s'.locs = pairDists s.locs
  locs : locsPcs s' = locsPcs s
  normals : normalsPcs 0 s' = normalsPcs 0 s
  unit : UnitNormals s → UnitNormals s'
  good : GoodCS s.pcs → GoodCS s'.pcs

theorem Rigid.refl (s : State K) : Rigid s s := ⟨rfl, rfl, rfl, id, id⟩

theorem Rigid.trans {s s' s'' : State K} (h : Rigid s s') (h' : Rigid s' s'') : Rigid s s'' :=
  ⟨h'.dists.trans h.dists, h'.locs.trans h.locs, h'.normals.trans h.normals, h'.unit ∘ h.unit,
    h'.good ∘ h.good⟩

/-- `translate`: the PCS origin moves with the elements; normals and axes are not touched -/
theorem Rigid.translate (s : State K) (v : P3 K) : Rigid s (translate s v) where
  dists := pairDists_map _ (fun a b => congrArg nsq (translate_diff a b v)) _
  locs := List.map_map.trans (List.map_congr_left fun p _ => translate_fromGcs s.pcs p v)
  normals := rfl
  unit := id
  good g := ⟨g.ii, g.jj, g.ij⟩

theorem translate_normals (s : State K) (v : P3 K) : (translate s v).normals = s.normals := rfl
theorem translate_axes (s : State K) (v : P3 K) :
    (translate s v).pcs.i = s.pcs.i ∧ (translate s v).pcs.j = s.pcs.j ∧
      (translate s v).pcs.origin = vadd s.pcs.origin v := ⟨rfl, rfl, rfl⟩

theorem Rigid.rotateP (s : State K) (r : M3 K) (h : Proper r) (c : Option (P3 K)) :
    Rigid s (rotateP s r c) where
  dists := pairDists_map _ (fun a b => rotate_isometry a b r c h.cols) _
  locs := List.map_map.trans (List.map_congr_left fun p _ => rotate_fromGcs s.pcs r h c p)
  normals := List.map_map.trans (List.map_congr_left fun p _ => rotate_fromGcs_normal s.pcs r h c p)
  unit u n hn := by
    obtain ⟨m, hm, rfl⟩ := List.mem_map.mp hn
    exact (dot_mulVec r m m h.cols).trans (u m hm)
  good g := g.rotate r h c

theorem rotateP_axes (s : State K) (r : M3 K) (h : Proper r) (c : Option (P3 K)) :
    (rotateP s r c).pcs.i = mulVec r s.pcs.i ∧ (rotateP s r c).pcs.j = mulVec r s.pcs.j ∧
      (rotateP s r c).pcs.k = mulVec r s.pcs.k ∧
      (rotateP s r c).pcs.origin = rotate s.pcs.origin r c :=
  ⟨congrArg CS.i (cs_rotate_eq _ r c), congrArg CS.j (cs_rotate_eq _ r c), CS.rotate_k _ r h c, rfl⟩

theorem flip_eq (s : State K) (c sn : K) : Probe.flip 0 1 s c sn = rotateP s (rotZ 0 1 c sn) none := rfl

/-- `flip_probe_around_axis_Oz` is a rotation by a proper matrix as soon as the computed
    `c = cos π`, `s = sin π` satisfy `c² + s² = 1`, so everything proved for `rotate` applies -/
theorem flip_facts (s : State K) (c sn : K) (h : c * c + sn * sn = 1) :
    Proper (rotZ 0 1 c sn) ∧
    pairDists (Probe.flip 0 1 s c sn).locs = pairDists s.locs ∧
    locsPcs (Probe.flip 0 1 s c sn) = locsPcs s ∧
    normalsPcs 0 (Probe.flip 0 1 s c sn) = normalsPcs 0 s ∧
    (UnitNormals s → UnitNormals (Probe.flip 0 1 s c sn)) ∧
    (GoodCS s.pcs → GoodCS (Probe.flip 0 1 s c sn).pcs) :=
  have hp := rotZ_proper c sn h
  have m := Rigid.rotateP s _ hp none
  ⟨hp, m.dists, m.locs, m.normals, m.unit, m.good⟩

/-- in exact arithmetic (`cos π = −1`, `sin π = 0`) the flip negates `x` and `y` -/
theorem flip_exact (p : P3 K) : rotate p (rotZ 0 1 (-1) 0) none = ⟨-p.x, -p.y, p.z⟩ := by
  simp only [rotate, mulVec, rotZ, dot, neg_mul, one_mul, neg_zero, zero_mul, add_zero, zero_add]

theorem locsPcs_origin (s : State K) (o : P3 K) :
    locsPcs { s with pcs := { s.pcs with origin := o } }
      = (locsPcs s).map (fun q => vsub q (s.pcs.fromGcs o)) :=
  List.map_map.symm ▸ List.map_congr_left fun p _ => set_reference_shift s.pcs o p

section setRef
variable [Div K] (ofNat : Nat → K)

theorem setRef_some {s s' : State K} {r : Ref} (h : setRef 0 ofNat s r = some s') :
    ∃ o, s' = { s with pcs := { s.pcs with origin := o } } := by
  obtain ⟨o, _, rfl⟩ := Option.map_eq_some_iff.mp h
  exact ⟨o, rfl⟩

omit [CommRing K] [Div K] in
theorem pyIdx_some {l : List (P3 K)} {k : Int} {o : P3 K} (h : pyIdx l k = some o) :
    ∃ n : Nat, l[n]? = some o := by
  unfold pyIdx at h
  split at h
  · exact ⟨_, h⟩
  · split at h
    · exact ⟨_, h⟩
    · cases h

/-- `set_reference_element` with `first`, `last` or an explicit index: the new origin is one of
    the elements, and that element gets PCS coordinates `0` -/
theorem setRef_element_origin {s s' : State K} {r : Ref} (hr : r ≠ Ref.mean)
    (h : setRef 0 ofNat s r = some s') :
    ∃ n : Nat, s.locs[n]? = some s'.pcs.origin ∧ (locsPcs s')[n]? = some (zero3 : P3 K) := by
  obtain ⟨o, ho, rfl⟩ := Option.map_eq_some_iff.mp h
  obtain ⟨n, hn⟩ : ∃ n : Nat, s.locs[n]? = some o := by
    cases r with
    | mean => exact absurd rfl hr
    | _ => exact pyIdx_some ho
  refine ⟨n, hn, ?_⟩
  simp only [locsPcs, List.getElem?_map, hn, Option.map_some]
  exact congrArg some (set_reference_origin _)

/-- `set_reference_element("mean")`: the new origin is the mean location as computed -/
theorem setRef_mean_origin {s s' : State K} (h : setRef 0 ofNat s Ref.mean = some s') :
    s'.pcs.origin = meanLoc 0 ofNat s.locs ∧ s.locs ≠ [] := by
  simp only [setRef, Option.map_eq_some_iff] at h
  obtain ⟨o, ho, rfl⟩ := h
  split at ho
  · cases ho
  · rename_i hne
    exact ⟨(Option.some.inj ho).symm, by simpa using hne⟩

end setRef

theorem toO_eq (s : State K) : toO s = translate s (neg3 s.pcs.origin) := rfl

theorem toO_origin (s : State K) : (toO s).pcs.origin = zero3 := vadd_neg3 _

theorem reset_eq (s : State K) : reset s = rotateP (toO s) (toO s).pcs.rows none := rfl

theorem reset_proper (s : State K) (g : GoodCS s.pcs) : Proper (toO s).pcs.rows :=
  rows_proper ((Rigid.translate s _).good g)

theorem Rigid.reset (s : State K) (g : GoodCS s.pcs) : Rigid s (reset s) :=
  (Rigid.translate s _).trans (.rotateP _ _ (reset_proper s g) none)

theorem reset_pcs (s : State K) (g : GoodCS s.pcs) : (reset s).pcs = ⟨zero3, e1, e2⟩ := by
  have h := (reset_proper s g).rows
  show (toO s).pcs.rotate (toO s).pcs.rows none = _
  rw [cs_rotate_eq, toO_origin]
  exact congr (congr (congrArg CS.mk (mulVec_zero3 _)) h.mulVec_r0) h.mulVec_r1

/-- after `reset_position`, global and probe coordinates coincide -/
theorem reset_identity (s : State K) (g : GoodCS s.pcs) : locsPcs (reset s) = (reset s).locs := by
  simp only [locsPcs, reset_pcs s g]
  exact (List.map_congr_left fun p _ => fromGcs_std p).trans (List.map_id _)

theorem reset_pairDists (s : State K) (g : GoodCS s.pcs) :
    pairDists (reset s).locs = pairDists s.locs := (Rigid.reset s g).dists

theorem reset_normalsPcs (s : State K) (g : GoodCS s.pcs) :
    normalsPcs 0 (reset s) = normalsPcs 0 s := (Rigid.reset s g).normals

theorem reset_unitNormals (s : State K) (g : GoodCS s.pcs) (u : UnitNormals s) :
    UnitNormals (reset s) := (Rigid.reset s g).unit u

/-- `reset_position` makes the old PCS coordinates the global ones -/
theorem reset_locs (s : State K) (g : GoodCS s.pcs) : (reset s).locs = locsPcs s := by
  rw [← reset_identity s g, (Rigid.reset s g).locs]

/-- `points_from_probe`: every point carries the probe axes `(î, ĵ, k̂)`, `k̂ = î × ĵ` -/
theorem orientedPoints_axes (s : State K) :
    ∀ x ∈ orientedPoints s, x.2 = s.pcs.rows ∧ x.2 = ⟨s.pcs.i, s.pcs.j, cross s.pcs.i s.pcs.j⟩ := by
  intro x hx
  simp only [orientedPoints, List.mem_map] at hx
  obtain ⟨p, _, rfl⟩ := hx
  exact ⟨rfl, rfl⟩

theorem orientedPoints_locs (s : State K) : (orientedPoints s).map Prod.fst = s.locs := by
  simp [orientedPoints, List.map_map, Function.comp_def]

/-- what every reachable state `s` shares with the initial state `s0`: the number of elements, the distances between
them, `orientations_pcs` (`normalsPcs`), unit `orientations`, an orthonormal `pcs`, and `locations_pcs` (`locsPcs`) up to
a shift -/
structure Inv0 (s0 s : State K) : Prop where
  len : s.locs.length = s0.locs.length
  dists : pairDists s.locs = pairDists s0.locs
  normals : normalsPcs 0 s = normalsPcs 0 s0
  unit : UnitNormals s
  good : GoodCS s.pcs
  /-- the same element locations in the PCS, up to one common shift vector -/
  shift : ∃ d, locsPcs s = (locsPcs s0).map (fun q => vsub q d)

theorem Inv0.shift_getElem {s0 s : State K} (h : Inv0 s0 s) :
    ∃ d, ∀ k (hk : k < (locsPcs s).length) (hk0 : k < (locsPcs s0).length),
      (locsPcs s)[k] = vsub (locsPcs s0)[k] d := by
  obtain ⟨d, hd⟩ := h.shift
  refine ⟨d, fun k hk hk0 => ?_⟩
  simp only [hd, List.getElem_map]

theorem Inv0.refl (s0 : State K) (g : GoodCS s0.pcs) (u : UnitNormals s0) : Inv0 s0 s0 :=
  ⟨rfl, rfl, rfl, u, g, zero3,
    ((List.map_congr_left fun p _ => vsub_zero3 p).trans (List.map_id _)).symm⟩

theorem Inv0.rigid {s0 s s' : State K} (h : Inv0 s0 s) (m : Rigid s s') : Inv0 s0 s' :=
  ⟨(length_eq_of_pairDists_eq m.dists).trans h.len, m.dists.trans h.dists,
    m.normals.trans h.normals, m.unit h.unit, m.good h.good, m.locs ▸ h.shift⟩

theorem Inv0.translate {s0 s : State K} (h : Inv0 s0 s) (v : P3 K) : Inv0 s0 (translate s v) :=
  h.rigid (.translate s v)

theorem Inv0.setRef [Div K] (ofNat : Nat → K) {s0 s s' : State K} (h : Inv0 s0 s) {r : Ref}
    (hs : setRef 0 ofNat s r = some s') : Inv0 s0 s' := by
  obtain ⟨o, rfl⟩ := setRef_some ofNat hs
  obtain ⟨d, hd⟩ := h.shift
  refine ⟨h.len, h.dists, h.normals, h.unit, ⟨h.good.ii, h.good.jj, h.good.ij⟩,
    vadd d (s.pcs.fromGcs o), ?_⟩
  rw [locsPcs_origin, hd, List.map_map]
  exact List.map_congr_left fun p _ => vsub_vsub p d _

/-- the one hypothesis on an operation of a history: the matrix of a `rotate` is a proper rotation -/
def OpOk : Op K → Prop
  | .rotate r _ => Proper r
  | _ => True

section history
variable [Div K] (ofNat : Nat → K) (cpi spi : K)

/-- `set_reference_element` moves the PCS origin alone, so it is the one operation that changes `locations_pcs`;
histories without it keep them fixed (`history_locs_pcs_fixed`) -/
def NotSetRef : Op K → Prop
  | .setRef _ => False
  | _ => True

theorem step_rigid (hpi : cpi * cpi + spi * spi = 1) {s s' : State K} (op : Op K)
    (hop : OpOk op) (hn : NotSetRef op) (g : GoodCS s.pcs)
    (hs : step 0 1 ofNat cpi spi s op = some s') : Rigid s s' := by
  cases op with
  | translate v => cases hs; exact .translate s v
  | rotate r c => cases hs; exact .rotateP s r hop c
  | flip => cases hs; exact .rotateP s _ (rotZ_proper cpi spi hpi) none
  | setRef r => exact hn.elim
  | toO => cases hs; exact .translate s _
  | reset => cases hs; exact .reset s g

theorem step_inv (hpi : cpi * cpi + spi * spi = 1) {s0 s s' : State K} (op : Op K)
    (hop : OpOk op) (h : Inv0 s0 s) (hs : step 0 1 ofNat cpi spi s op = some s') : Inv0 s0 s' := by
  cases op with
  | setRef r => exact h.setRef ofNat hs
  | _ => exact h.rigid (step_rigid ofNat cpi spi hpi _ hop trivial h.good hs)

/-- running a list of operations (Python exceptions abort the run) -/
def run (s : State K) : List (Op K) → Option (State K)
  | [] => some s
  | op :: ops => (step 0 1 ofNat cpi spi s op).bind (fun s' => run s' ops)

theorem run_eq_foldlM (s : State K) (ops : List (Op K)) :
    run ofNat cpi spi s ops = ops.foldlM (step 0 1 ofNat cpi spi) s := by
  induction ops generalizing s with
  | nil => rfl
  | cons op ops ih =>
    simp only [run, List.foldlM_cons, ih]
    rfl

theorem run_induction {P : State K → Prop} {s s' : State K} (ops : List (Op K))
    (hstep : ∀ op ∈ ops, ∀ s s', P s → step 0 1 ofNat cpi spi s op = some s' → P s')
    (h : P s) (hs : run ofNat cpi spi s ops = some s') : P s' := by
  induction ops generalizing s with
  | nil => cases hs; exact h
  | cons op ops ih =>
    obtain ⟨s1, h1, h2⟩ := Option.bind_eq_some_iff.mp hs
    exact ih (fun o ho => hstep o (List.mem_cons_of_mem _ ho))
      (hstep op List.mem_cons_self _ _ h h1) h2

/-- whatever operations (rotations proper) are applied to a probe with an orthonormal frame and
    unit normals, element distances, PCS normals, unit normals and the orthonormal frame are
    kept, and the PCS locations change by a common shift only -/
theorem history_inv (hpi : cpi * cpi + spi * spi = 1) {s0 s : State K} (g : GoodCS s0.pcs)
    (u : UnitNormals s0) (ops : List (Op K)) (hops : ∀ op ∈ ops, OpOk op)
    (hs : run ofNat cpi spi s0 ops = some s) : Inv0 s0 s :=
  run_induction ofNat cpi spi ops
    (fun op ho _ _ h hs => step_inv ofNat cpi spi hpi op (hops op ho) h hs) (Inv0.refl s0 g u) hs

theorem history_rigid (hpi : cpi * cpi + spi * spi = 1) {s0 s : State K}
    (g : GoodCS s0.pcs) (ops : List (Op K)) (hops : ∀ op ∈ ops, OpOk op)
    (hn : ∀ op ∈ ops, NotSetRef op) (hs : run ofNat cpi spi s0 ops = some s) : Rigid s0 s :=
  run_induction ofNat cpi spi ops
    (fun op ho _ _ h hs =>
      h.trans (step_rigid ofNat cpi spi hpi op (hops op ho) (hn op ho) (h.good g) hs))
    (Rigid.refl s0) hs

/-- without `set_reference_element` in the history the PCS locations never change -/
theorem history_locs_pcs_fixed (hpi : cpi * cpi + spi * spi = 1) {s0 s : State K}
    (g : GoodCS s0.pcs) (ops : List (Op K)) (hops : ∀ op ∈ ops, OpOk op)
    (hn : ∀ op ∈ ops, NotSetRef op) (hs : run ofNat cpi spi s0 ops = some s) :
    locsPcs s = locsPcs s0 :=
  (history_rigid ofNat cpi spi hpi g ops hops hn hs).locs

end history

section matrix
variable {F : Type} [Field F]

theorem axis_mean [CharZero F] (n : Nat) (hn : 1 ≤ n) (p : F) :
    ((List.range n).map (fun (k : Nat) => (k : F) * p)).sum / ((List.range n).map (fun (k : Nat) => (k : F) * p)).length
      = (n - 1) * p / 2 := by
  have hn' : (n : F) ≠ 0 := Nat.cast_ne_zero.mpr (by omega)
  rw [List.length_map, List.length_range, div_eq_div_iff hn' two_ne_zero, mul_comm _ 2,
    sum_range_mul, mul_assoc, mul_comm]

theorem matrixProbe_eq (numx numy : Nat) (px py : F) :
    matrixProbe 0 Nat.cast numx numy px py =
      let xs := (List.range numx).map (fun (k : Nat) => (k : F) * px)
      let ys := (List.range numy).map (fun (k : Nat) => (k : F) * py)
      ys.flatMap (fun y => xs.map (fun x => (⟨x - xs.sum / xs.length, y - ys.sum / ys.length, 0⟩ : P3 F))) := by
  simp only [matrixProbe, axis_eq, foldl_add_eq, zero_add]

theorem matrixProbe_length (numx numy : Nat) (px py : F) :
    (matrixProbe 0 Nat.cast numx numy px py).length = numx * numy := by
  rw [matrixProbe_eq, flatMap_uniform_length _ numx fun _ => by
      rw [List.length_map, List.length_map, List.length_range],
    List.length_map, List.length_range, Nat.mul_comm]

/-- `make_matrix_probe`: element `(ix, iy)` has index `iy * numx + ix` and sits at
    `(ix pitchX − (numx − 1) pitchX / 2, iy pitchY − (numy − 1) pitchY / 2, 0)` -/
theorem matrixProbe_getElem [CharZero F] (numx numy : Nat) (px py : F) (ix iy : Nat) (hx : ix < numx)
    (hy : iy < numy) :
    (matrixProbe 0 Nat.cast numx numy px py)[iy * numx + ix]? =
      some ⟨ix * px - (numx - 1) * px / 2, iy * py - (numy - 1) * py / 2, 0⟩ := by
  rw [matrixProbe_eq]
  simp only [axis_mean numx (by omega) px, axis_mean numy (by omega) py]
  rw [flatMap_uniform_getElem? _ numx
    (fun _ => by rw [List.length_map, List.length_map, List.length_range]) _ iy ix
    (by simpa using hy) hx]
  simp only [List.getElem?_map, List.getElem_map, List.getElem_range, List.getElem?_range hx,
    Option.map_some]

theorem sum_sub_mean [CharZero F] (l : List F) :
    (l.map (fun x => x - l.sum / l.length)).sum = 0 := by
  cases l with
  | nil => rfl
  | cons a l =>
    rw [sum_map_sub_const, mul_div_cancel₀ _ (Nat.cast_ne_zero.mpr (Nat.succ_ne_zero _)), sub_self]

/-- the centroid of `make_matrix_probe` is the origin -/
theorem matrixProbe_centroid [CharZero F] (numx numy : Nat) (px py : F) :
    meanLoc 0 Nat.cast (matrixProbe 0 Nat.cast numx numy px py) = zero3 := by
  simp only [meanLoc, matrixProbe_eq, tiled_sum _ _ _ _ (sum_sub_mean _) (sum_sub_mean _), zero3,
    zero_div]

end matrix

section examples

/-- a rational rotation about `Oz` (the 3-4-5 triangle) -/
def r345 : M3 ℚ := ⟨⟨3/5, -4/5, 0⟩, ⟨4/5, 3/5, 0⟩, ⟨0, 0, 1⟩⟩

/-- a two-element probe, pitch 1 along `x`, looking along `z`, in the global frame -/
def probe2 : State ℚ :=
  { locs := [⟨0, 0, 0⟩, ⟨1, 0, 0⟩], normals := [⟨0, 0, 1⟩, ⟨0, 0, 1⟩]
    pcs := ⟨⟨0, 0, 0⟩, ⟨1, 0, 0⟩, ⟨0, 1, 0⟩⟩ }

/-- `r345` is `rotation_matrix_z` for `cos = 3/5`, `sin = 4/5` -/
theorem r345_proper : Proper r345 :=
  (by decide +kernel : rotZ 0 1 (3/5) (4/5) = r345) ▸ rotZ_proper (3/5) (4/5) (by norm_num)

example : Proper r345 := r345_proper

theorem probe2_good : GoodCS probe2.pcs := by
  constructor <;> decide +kernel

theorem probe2_unit : UnitNormals probe2 := by
  unfold UnitNormals; decide +kernel

example : (rotateP probe2 r345 (some ⟨1, 2, 3⟩)).locs = [⟨2, 0, 0⟩, ⟨13/5, 4/5, 0⟩] := by
  decide +kernel

example : locsPcs (rotateP probe2 r345 (some ⟨1, 2, 3⟩)) = [⟨0, 0, 0⟩, ⟨1, 0, 0⟩] := by
  decide +kernel

/-- a history using every kind of operation -/
def hist : List (Op ℚ) :=
  [.translate ⟨1, 2, 3⟩, .rotate r345 (some ⟨1, 1, 1⟩), .setRef .last, .flip, .toO, .reset]

theorem hist_ok : ∀ op ∈ hist, OpOk op := by
  intro op h
  simp only [hist, List.mem_cons, List.not_mem_nil, or_false] at h
  rcases h with rfl | rfl | rfl | rfl | rfl | rfl
  exacts [trivial, r345_proper, trivial, trivial, trivial, trivial]

theorem run_hist : run Nat.cast (-1) 0 probe2 hist =
    some { locs := [⟨-1, 0, 0⟩, ⟨0, 0, 0⟩], normals := [⟨0, 0, 1⟩, ⟨0, 0, 1⟩]
           pcs := ⟨⟨0, 0, 0⟩, ⟨1, 0, 0⟩, ⟨0, 1, 0⟩⟩ } := by
  decide +kernel

/-- the run succeeds and ends in the global frame, the last element at the origin -/
example : run Nat.cast (-1) 0 probe2 hist =
    some { locs := [⟨-1, 0, 0⟩, ⟨0, 0, 0⟩], normals := [⟨0, 0, 1⟩, ⟨0, 0, 1⟩]
           pcs := ⟨⟨0, 0, 0⟩, ⟨1, 0, 0⟩, ⟨0, 1, 0⟩⟩ } := run_hist

example : ∃ s, run Nat.cast (-1) 0 probe2 hist = some s ∧ Inv0 probe2 s :=
  ⟨_, run_hist, history_inv Nat.cast (-1) 0 (by norm_num) probe2_good probe2_unit hist hist_ok run_hist⟩

/-- `Proper` cannot be dropped: a scaling changes the PCS locations -/
example : locsPcs (rotateP probe2 ⟨⟨2, 0, 0⟩, ⟨0, 2, 0⟩, ⟨0, 0, 2⟩⟩ none) ≠ locsPcs probe2 := by
  decide +kernel

/-- `det = 1` cannot be dropped: the mirror `z ↦ −z` is orthogonal, keeps `î, ĵ` and so keeps
    `k̂ = î × ĵ`, hence the PCS `z` of an element off the plane changes sign -/
example :
    let s : State ℚ := { probe2 with locs := [⟨0, 0, 1⟩] }
    let m : M3 ℚ := ⟨⟨1, 0, 0⟩, ⟨0, 1, 0⟩, ⟨0, 0, -1⟩⟩
    Orthonormal m ∧ Orthonormal m.transpose ∧ det m = -1 ∧
    locsPcs s = [⟨0, 0, 1⟩] ∧ locsPcs (rotateP s m none) = [⟨0, 0, -1⟩] := by
  refine ⟨⟨?_, ?_, ?_, ?_, ?_, ?_⟩, ⟨?_, ?_, ?_, ?_, ?_, ?_⟩, ?_, ?_, ?_⟩ <;> decide +kernel

example : matrixProbe (0 : ℚ) Nat.cast 3 2 2 3 =
    [⟨-2, -3/2, 0⟩, ⟨0, -3/2, 0⟩, ⟨2, -3/2, 0⟩, ⟨-2, 3/2, 0⟩, ⟨0, 3/2, 0⟩, ⟨2, 3/2, 0⟩] := by
  decide +kernel

end examples

end Arim.C16
